import AnyTLS.Props.C20
#print axioms AnyTLS.C20.receive_loop_total
#print axioms AnyTLS.C20.closes_only_on_alert
#print axioms AnyTLS.C20.quiet_frames_keep_invariant
#print axioms AnyTLS.C20.scheme_payloads_sane
#print axioms AnyTLS.C20.parsers_prefix_stable
#print axioms AnyTLS.C20.sibling_untouched
