import AnyTLS.Props.C04
#print axioms AnyTLS.C04.sizes_sane
#print axioms AnyTLS.C04.shape_payload_then_waste
#print axioms AnyTLS.C04.encode_wasteF
#print axioms AnyTLS.C04.encodeAll_wastes
#print axioms AnyTLS.C04.wire_parses
#print axioms AnyTLS.C04.wire_parses_packets
#print axioms AnyTLS.C04.writes_bounded
#print axioms AnyTLS.C04.pinned_header_truncated
#print axioms AnyTLS.C04.pinned_size_wraps
