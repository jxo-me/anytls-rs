import AnyTLS.Props.C11
#print axioms AnyTLS.C11.inv_init
#print axioms AnyTLS.C11.inv_reach
#print axioms AnyTLS.C11.contiguous
#print axioms AnyTLS.C11.program_order
#print axioms AnyTLS.C11.nothing_skipped
#print axioms AnyTLS.C11.log_grows
#print axioms AnyTLS.C11.settings_first
#print axioms AnyTLS.C11.whole_units
#print axioms AnyTLS.C11.dataFrames_shape
#print axioms AnyTLS.C11.syn_before_own_data
#print axioms AnyTLS.C11.registered_before_syn
#print axioms AnyTLS.C11.nothing_dropped
#print axioms AnyTLS.C11.failure_closes
#print axioms AnyTLS.C11.one_writer
#print axioms AnyTLS.C11.reach_trans
#print axioms AnyTLS.C11.runFree_reach
#print axioms AnyTLS.C11.settle_reach
#print axioms AnyTLS.C11.stepTask_reach
