import AnyTLS.Props.C16
#print axioms AnyTLS.C16.method_selection
#print axioms AnyTLS.C16.refusal_iff
#print axioms AnyTLS.C16.request_roundtrip
#print axioms AnyTLS.C16.connect_only
#print axioms AnyTLS.C16.reply_follows_open
#print axioms AnyTLS.C16.greeting_prefix_stable
#print axioms AnyTLS.C16.connection_local
#print axioms AnyTLS.C16.pinned_tunnels_bind
