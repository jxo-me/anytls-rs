import AnyTLS.Props.C09
#print axioms AnyTLS.C09.drain_releases
#print axioms AnyTLS.C09.drain_needs_no_lock
#print axioms AnyTLS.C09.drain_closes_readers
#print axioms AnyTLS.C09.closeInv_micro
#print axioms AnyTLS.C09.closeInv_reach
#print axioms AnyTLS.C09.closed_forever
#print axioms AnyTLS.C09.closed_then_shut
#print axioms AnyTLS.C09.no_deadlock
#print axioms AnyTLS.C09.later_open_fails
#print axioms AnyTLS.C09.later_write_fails
#print axioms AnyTLS.C09.failed_write_closes
#print axioms AnyTLS.C09.every_schedule_is_bounded
#print axioms AnyTLS.C09.stuck_means_finished
#print axioms AnyTLS.C09.close_sets_closed
#print axioms AnyTLS.C09.end_of_input_closes
