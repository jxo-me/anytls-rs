import AnyTLS.Props.C01
#print axioms AnyTLS.C01.run_inv
#print axioms AnyTLS.C01.reads_prefix
#print axioms AnyTLS.C01.reads_complete
#print axioms AnyTLS.C01.read_nonempty
#print axioms AnyTLS.C01.read_empty_refuted
#print axioms AnyTLS.C01.pieces_spec
#print axioms AnyTLS.C01.pieces_lossless
#print axioms AnyTLS.C01.rdOf_other
#print axioms AnyTLS.C01.rdOf_push
#print axioms AnyTLS.C01.rdOf_own_inert
#print axioms AnyTLS.C01.stream_delivery
#print axioms AnyTLS.C01.pipe_lossless
#print axioms AnyTLS.C01.data_finds_new_stream
#print axioms AnyTLS.C01.relay_sites_sound
#print axioms AnyTLS.C01.relay_sites_all_found
#print axioms AnyTLS.C01.every_relay_loop_prefix
#print axioms AnyTLS.C01.every_relay_loop_complete
#print axioms AnyTLS.C01.single_write_loses_bytes
#print axioms AnyTLS.C01.whole_buffer_invents_bytes
#print axioms AnyTLS.C01.abandoned_read_consumes_nothing
