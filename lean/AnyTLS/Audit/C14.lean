import AnyTLS.Props.C14
#print axioms AnyTLS.C14.gen_mapping
#print axioms AnyTLS.C14.idle_instant_noop
#print axioms AnyTLS.C14.idle_none
#print axioms AnyTLS.C14.idle_run
#print axioms AnyTLS.C14.healthy_never_closed
#print axioms AnyTLS.C14.pending_leads_to_close
#print axioms AnyTLS.C14.silent_detected_pending
#print axioms AnyTLS.C14.silent_detected
#print axioms AnyTLS.C14.pinned_refuted_T_lt_I
#print axioms AnyTLS.C14.pinned_refuted_jitter
