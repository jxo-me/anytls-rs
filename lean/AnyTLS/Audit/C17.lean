import AnyTLS.Props.C17
#print axioms AnyTLS.C17.header_end_first
#print axioms AnyTLS.C17.header_read_chunk_independent
#print axioms AnyTLS.C17.tunnel_to_named_authority
#print axioms AnyTLS.C17.origin_receives_request
#print axioms AnyTLS.C17.relayed_sends
#print axioms AnyTLS.C17.rest_forwarded_once
#print axioms AnyTLS.C17.reply502_ne_200
#print axioms AnyTLS.C17.no_200_without_tunnel
#print axioms AnyTLS.C17.connection_wellformed
#print axioms AnyTLS.C17.exReq_wf
#print axioms AnyTLS.C17.each_request_to_its_authority_refuted
