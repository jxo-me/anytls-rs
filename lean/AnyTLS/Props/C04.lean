/-
C04 — padding is invisible to the payload and keeps the wire well-formed.
Model: `Model/Padding.lean` (`Scheme.parse`, `Scheme.specs`, `resolve`, `shape`, `writePacket`).
-/
import AnyTLS.Lemmas.Padding
import AnyTLS.Props.C03

namespace AnyTLS.C04
open AnyTLS AnyTLS.Gen

/-- T4.3 `sizes_sane`: for every accepted scheme, every packet index and every draw vector,
each generated record size is a check mark or lies in [1, 65535] — inside its entry's range.
(Sizes above 65535 or with a non-positive bound are not honoured: `parsePart` drops them.) -/
theorem sizes_sane (s : Scheme) (pkt : Nat) (rs : List Nat) :
    Matches (s.specs pkt) (resolve (s.specs pkt) rs) ∧
    ∀ sz ∈ resolve (s.specs pkt) rs, ∀ n, sz = .size n → 1 ≤ n ∧ n ≤ 65535 := by
  have hm := resolve_matches (s.specs pkt) rs (specs_sane s pkt)
  exact ⟨hm, matches_range hm (specs_sane s pkt)⟩

/-- the lengths of the padding frames a packet carries -/
def packetPads (sendPadding : Bool) (s : Scheme) (pkt : Nat) (rs : List Nat) (payloadLen : Nat) : List Nat :=
  if !sendPadding then []
  else if pkt ≥ s.stop then []
  else
    let sizes := resolve (s.specs pkt) rs
    if sizes.isEmpty then [] else shapePads sizes payloadLen

/-- T4.1 `shape_payload_then_waste`: whatever scheme is in force, whichever packet is being
sent and whatever the draws, the bytes written are the payload, unaltered and in one piece,
followed by padding frames only — padding is never spliced into, reordered with, or
substituted for payload — and every padding frame fits its 16-bit length field. -/
theorem shape_payload_then_waste (sp : Bool) (s : Scheme) (pkt : Nat) (rs : List Nat) (payload : Bytes) :
    flatten (writePacket sp s pkt rs payload)
      = payload ++ flatten ((packetPads sp s pkt rs payload.length).map wasteFrame) ∧
    ∀ p ∈ packetPads sp s pkt rs payload.length, 1 ≤ p ∧ p ≤ 65535 := by
  unfold writePacket packetPads
  by_cases h1 : (!sp) = true
  · simp [h1]
  · simp only [h1, Bool.false_eq_true, if_false]
    by_cases h2 : pkt ≥ s.stop
    · simp [h2]
    · simp only [h2, if_false]
      by_cases h3 : (resolve (s.specs pkt) rs).isEmpty = true
      · simp [h3]
      · simp only [h3, Bool.false_eq_true, if_false]
        exact ⟨shape_flatten _ _, shapePads_range _ (sizes_sane s pkt rs).2 _⟩

/-- a padding frame as a frame -/
def wasteF (n : Nat) : Frame := { cmd := .waste, sid := 0, data := zeros n }

theorem encode_wasteF (n : Nat) (h : n ≤ 65535) : encode (wasteF n) = some (wasteFrame n) := by
  simp [encode, wasteF, wasteFrame, zeros, Cmd.toByte]; omega

theorem encodeAll_wastes (pads : List Nat) (h : ∀ p ∈ pads, 1 ≤ p ∧ p ≤ 65535) :
    C03.encodeAll (pads.map wasteF) = some (flatten (pads.map wasteFrame)) := by
  induction pads with
  | nil => rfl
  | cons p ps ih =>
    obtain ⟨hp, h⟩ := List.forall_mem_cons.mp h
    simp [C03.encodeAll, encode_wasteF p hp.2, ih h]

/-- T4.2 `wire_parses` (one packet): if the pending payload is a sequence of complete frames,
the bytes put on the transport parse as complete frames with nothing left over, and deleting
the padding frames appended by the sender leaves exactly the frames the session was asked to
send, byte for byte and in order. -/
theorem wire_parses (sp : Bool) (s : Scheme) (pkt : Nat) (rs : List Nat)
    (fs : List Frame) (hwf : ∀ f ∈ fs, C03.WF f) (payload : Bytes) (henc : C03.encodeAll fs = some payload) :
    decodeAll (flatten (writePacket sp s pkt rs payload))
      = (fs ++ (packetPads sp s pkt rs payload.length).map wasteF, []) ∧
    (fs ++ (packetPads sp s pkt rs payload.length).map wasteF).take fs.length = fs := by
  obtain ⟨hflat, hle⟩ := shape_payload_then_waste sp s pkt rs payload
  have hwfW : ∀ f ∈ (packetPads sp s pkt rs payload.length).map wasteF, C03.WF f := by
    intro f hf
    obtain ⟨p, hp, rfl⟩ := List.mem_map.mp hf
    exact ⟨by simp [wasteF], by simp [wasteF, zeros]; exact (hle p hp).2⟩
  obtain ⟨b1, e1, d1⟩ := C03.decodeAll_encodeAll fs hwf [] rfl
  obtain ⟨b2, e2, d2⟩ := C03.decodeAll_encodeAll _ hwfW [] rfl
  rw [henc] at e1
  rw [encodeAll_wastes _ hle] at e2
  cases e1
  cases e2
  rw [List.append_nil] at d1 d2
  rw [hflat, decodeAll_split _ _, d1, List.nil_append, d2]
  exact ⟨rfl, by simp⟩

/-- T4.2 (any number of packets): the whole wire of a session — every packet shaped by its own
line with its own draws — parses as complete frames, and is the submitted frames of each
packet followed by that packet's padding frames. -/
theorem wire_parses_packets (sp : Bool) (s : Scheme) :
    ∀ (pkts : List (Nat × List Nat × List Frame × Bytes)),
      (∀ p ∈ pkts, (∀ f ∈ p.2.2.1, C03.WF f) ∧ C03.encodeAll p.2.2.1 = some p.2.2.2) →
      decodeAll (flatten (pkts.map fun p => flatten (writePacket sp s p.1 p.2.1 p.2.2.2)))
        = ((pkts.map fun p => p.2.2.1 ++ (packetPads sp s p.1 p.2.1 p.2.2.2.length).map wasteF).flatten, []) := by
  intro pkts
  induction pkts with
  | nil => intro _; rfl
  | cons p ps ih =>
    intro h
    obtain ⟨⟨hwf, henc⟩, h⟩ := List.forall_mem_cons.mp h
    rw [List.map_cons, flatten_cons, decodeAll_split, (wire_parses sp s p.1 p.2.1 p.2.2.1 hwf p.2.2.2 henc).1,
      List.nil_append, ih h]
    rfl

/-- T4.4: parsing and generation are total — `Scheme.parse`, `Scheme.specs`, `resolve`,
`shape` are total functions (a missing line gives no entries, reversed ranges are normalised,
non-numeric / non-positive / oversize bounds are skipped): an accepted scheme always yields
a finite list of writes whose total size is bounded (65542 = 7 + 65535: the header and the largest
data of a padding frame). -/
theorem writes_bounded (sp : Bool) (s : Scheme) (pkt : Nat) (rs : List Nat) (payload : Bytes) :
    (flatten (writePacket sp s pkt rs payload)).length
      ≤ payload.length + 65542 * (packetPads sp s pkt rs payload.length).length := by
  obtain ⟨hflat, hle⟩ := shape_payload_then_waste sp s pkt rs payload
  rw [hflat, List.length_append]
  generalize packetPads sp s pkt rs payload.length = pads at hle ⊢
  induction pads with
  | nil => exact Nat.le_refl _
  | cons p ps ih =>
    obtain ⟨hp, h⟩ := List.forall_mem_cons.mp hle
    have := ih h
    simp only [List.map_cons, flatten_cons, List.length_append, wasteFrame_length, List.length_cons] at this ⊢
    omega

/-- refutation of T4.1 for the *pinned* code (`padding_len as u16` in the frame header while
`padding_len` zero bytes are written): a 70 000-byte padding frame announces 4 464 bytes. -/
theorem pinned_header_truncated : toU16 70000 = 4464 ∧ toU16 70000 ≠ 70000 := by decide

/-- refutation of T4.3 for the pinned code (`i64 as i32` of a size ≥ 2^31 is negative, and
`as usize` of that is ≈ 2^64: capacity overflow) -/
theorem pinned_size_wraps : toI32 2147483648 = -2147483648 ∧
    i32AsUsize (toI32 2147483648) = 18446744071562067968 := by decide

/-- non-vacuity: a small scheme parses, and its line 1 has a sane range entry -/
example : ((Scheme.parse [115, 116, 111, 112, 61, 50, 10, 49, 61, 53, 45, 57]).map (fun s => (s.stop, s.specs 1)))
    = some (2, [.range 5 9]) := by decide +kernel

end AnyTLS.C04
