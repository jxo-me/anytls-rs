/-
C12 — the session pool never hands out or destroys the wrong session.
Model: `Model/Pool.lean` (`getIdleGo`, `cleanupGo` are transcriptions of the two loops; both
copies of the reaper loop in the code — `cleanup_expired` and the periodic task — are run
against `Pool.cleanup` by the correspondence check).
-/
import AnyTLS.Model.Pool

namespace AnyTLS.C12
open AnyTLS

/-- T12.1 `get_not_closed`: the pool never returns a session whose closed flag is set, and every
entry it skipped on the way (and removed) was closed; `none` means every entry was closed (all
removed). -/
theorem get_not_closed (closed : Nat → Bool) : ∀ (l : List PEntry),
    match getIdleGo closed l with
    | (some i, rest) => closed i = false ∧ ∃ skipped, l = skipped ++ [⟨(l.getD skipped.length default).seq, i, (l.getD skipped.length default).since⟩] ++ rest
        ∧ ∀ e ∈ skipped, closed e.sess = true
    | (none, rest) => rest = [] ∧ ∀ e ∈ l, closed e.sess = true := by
  intro l
  fun_induction getIdleGo closed l with
  | case1 => exact ⟨rfl, nofun⟩
  | case3 x xs h => exact ⟨(Bool.not_eq_true _).mp h, [], rfl, nofun⟩
  | case2 x xs h ih =>
    generalize getIdleGo closed xs = r at ih ⊢
    obtain ⟨_ | i, rest⟩ := r
    · exact ⟨ih.1, List.forall_mem_cons.mpr ⟨h, ih.2⟩⟩
    · obtain ⟨h1, sk, h2, h3⟩ := ih
      exact ⟨h1, x :: sk, congrArg (x :: ·) h2, List.forall_mem_cons.mpr ⟨h, h3⟩⟩

/-- T12.2 `cleanup_purges`: after a reaper pass no idle entry belongs to a closed session. -/
theorem cleanup_purges (cfg : PoolCfg) (closed : Nat → Bool) (now : Nat) : ∀ (l : List PEntry) (active : Nat),
    ∀ e ∈ (cleanupGo cfg closed now l active).1, closed e.sess = false := by
  intro l active
  -- the cases of `cleanupGo`, here and below: no entry; the entry is of a closed session and dropped (2), unexpired and
  -- kept (3), expired and kept to reach the minimum (4), expired and reaped (5); the last two binders are the recursive
  -- call's result and the induction hypothesis about it
  fun_induction cleanupGo cfg closed now l active with
  | case1 => nofun
  | case2 _ _ _ _ _ _ heq ih | case5 _ _ _ _ _ _ _ _ heq ih => rw [heq] at ih; exact ih
  | case3 _ _ _ hc _ _ _ heq ih | case4 _ _ _ hc _ _ _ _ heq ih =>
    rw [heq] at ih; exact List.forall_mem_cons.mpr ⟨(Bool.not_eq_true _).mp hc, ih⟩

/-- T12.3a: the reaper closes only sessions whose idle entry is expired (idle for at least the
timeout) and not closed yet; an unexpired entry is never closed. -/
theorem reaper_closes_only_expired (cfg : PoolCfg) (closed : Nat → Bool) (now : Nat) : ∀ (l : List PEntry) (active : Nat),
    ∀ i ∈ (cleanupGo cfg closed now l active).2,
      ∃ e ∈ l, e.sess = i ∧ closed e.sess = false ∧ ¬ (now - e.since < cfg.timeout) := by
  intro l active
  have lift : ∀ {x : PEntry} {rest : List PEntry} {p : PEntry → Prop}, (∃ e ∈ rest, p e) → ∃ e ∈ x :: rest, p e :=
    fun ⟨e, he, h⟩ => ⟨e, List.mem_cons_of_mem _ he, h⟩
  fun_induction cleanupGo cfg closed now l active with
  | case1 => nofun
  | case2 _ _ _ _ _ _ heq ih | case3 _ _ _ _ _ _ _ heq ih | case4 _ _ _ _ _ _ _ _ heq ih =>
    rw [heq] at ih; exact fun i hi => lift (ih i hi)
  | case5 e _ _ hc h1 _ _ _ heq ih =>
    rw [heq] at ih
    intro i hi
    rcases List.mem_cons.mp hi with rfl | hi
    · exact ⟨e, List.mem_cons_self, rfl, (Bool.not_eq_true _).mp hc, h1⟩
    · exact lift (ih i hi)

def nonClosed (closed : Nat → Bool) (l : List PEntry) : Nat := (l.filter (fun e => !closed e.sess)).length

/-- T12.3 `cleanup_min`: among idle sessions the reaper never leaves fewer than the configured
minimum (or all of them, if there are fewer). -/
theorem cleanup_min (cfg : PoolCfg) (closed : Nat → Bool) (now : Nat) : ∀ (l : List PEntry) (active : Nat),
    min cfg.minIdle (active + nonClosed closed l) ≤ (cleanupGo cfg closed now l active).1.length + active := by
  intro l active
  fun_induction cleanupGo cfg closed now l active with
  | case1 a => exact Nat.le_trans (Nat.min_le_right _ _) (Nat.le_add_left _ _)
  | case2 e rest _ hc _ _ heq ih =>
    rw [heq] at ih; rw [show nonClosed closed (e :: rest) = nonClosed closed rest by simp [nonClosed, hc]]; exact ih
  | case3 e rest a hc _ k _ heq ih | case4 e rest a hc _ _ k _ heq ih =>
    -- a kept entry counts on both sides
    rw [show nonClosed closed (e :: rest) = nonClosed closed rest + 1 by simp [nonClosed, hc]]
    rw [heq, Nat.add_right_comm] at ih
    show _ ≤ k.length + 1 + a
    rw [Nat.add_right_comm]; exact ih
  | case5 _ _ _ _ _ h2 =>
    -- an entry is reaped only when the minimum is already there
    exact Nat.le_trans (Nat.min_le_left _ _) (Nat.le_trans (Nat.le_of_not_lt h2) (Nat.le_add_left _ _))

/-- T12.4 `cleanup_surplus`: at a pass at which every idle entry is expired, exactly
min(min_idle, n) remain and the surplus is closed — with periodic passes this is the
"eventually" of the statement (min_idle = 0 included). -/
theorem cleanup_surplus (cfg : PoolCfg) (closed : Nat → Bool) (now : Nat) : ∀ (l : List PEntry) (active : Nat),
    (∀ e ∈ l, ¬ (now - e.since < cfg.timeout)) →
    (cleanupGo cfg closed now l active).1.length = min (cfg.minIdle - active) (nonClosed closed l) := by
  intro l active
  fun_induction cleanupGo cfg closed now l active with
  | case1 a => exact fun _ => (Nat.min_zero _).symm
  | case2 e rest _ hc _ _ heq ih =>
    rw [heq] at ih; rw [show nonClosed closed (e :: rest) = nonClosed closed rest by simp [nonClosed, hc]]
    exact fun h => ih (List.forall_mem_cons.mp h).2
  | case3 e _ _ _ h1 => exact fun h => absurd h1 (h e List.mem_cons_self)
  | case4 e rest a hc _ h2 _ _ heq ih =>
    rw [heq] at ih
    intro h
    rw [show nonClosed closed (e :: rest) = nonClosed closed rest + 1 by simp [nonClosed, hc],
      ← Nat.sub_add_cancel (Nat.le_sub_of_add_le' h2 : 1 ≤ cfg.minIdle - a), Nat.add_min_add_right]
    exact congrArg (· + 1) (ih (List.forall_mem_cons.mp h).2)
  | case5 _ _ _ _ _ h2 _ _ heq ih =>
    rw [heq] at ih
    intro h
    rw [ih (List.forall_mem_cons.mp h).2, Nat.sub_eq_zero_of_le (Nat.le_of_not_lt h2), Nat.zero_min,
      Nat.zero_min]

/-- T12.5 `reaper_spares_busy` (the property as wanted): pool housekeeping closes only sessions
that have no open stream. -/
def reaper_spares_busy : Prop :=
  ∀ (p : Pool) (now : Nat) (i : Nat), p.isClosed i = false → (p.cleanup now).isClosed i = true →
    p.streams.getD i 0 = 0

/-- T12.5 is false of the current code: a new session is put into the idle map at creation,
while its first stream is being opened, and nothing tracks stream completion, so "idle" says
nothing about use.  Witness: one session with an open stream, min_idle = 0, a pass after the
timeout.  Replayed on the real pool (`pool` group) and end to end (`e2e reaper`); recorded as a
known finding. -/
theorem reaper_spares_busy_refuted : ¬ reaper_spares_busy := by
  intro h
  have := h { cfg := { interval := 100, timeout := 200, minIdle := 0 },
              idle := [{ seq := 0, sess := 0, since := 0 }], closed := [false], streams := [1] } 300 0
    (by decide) (by decide)
  revert this
  decide

/-- non-vacuity: three expired idle sessions, minimum 2 ⇒ two remain, the newest is closed -/
example : (cleanupGo { interval := 1, timeout := 10, minIdle := 2 } (fun _ => false) 100
    [⟨0, 0, 0⟩, ⟨1, 1, 0⟩, ⟨2, 2, 0⟩] 0) = ([⟨0, 0, 0⟩, ⟨1, 1, 0⟩], [2]) := by decide

end AnyTLS.C12
