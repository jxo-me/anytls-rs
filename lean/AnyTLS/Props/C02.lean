/-
C02 — streams sharing a session never see each other's bytes.
Model: `AnyTLS/Model/Session.lean` (receive side: `Sess.handleFrame`, `Sess.openStream`).
-/
import AnyTLS.Lemmas.Session

namespace AnyTLS.C02
open AnyTLS AnyTLS.Gen

/-- everything the session holds for stream id `k`: its object (inbound queue, reader
buffer, channel state, pending-open slot, closed flag) through the receive table and through
the stream table -/
def view (s : Sess) (k : Nat) : Option Obj × Option Obj :=
  ((tblGet s.recv k).bind (fun h => s.objs[h]?), (tblGet s.streams k).bind (fun h => s.objs[h]?))

/-- T2.1 `no_crosstalk` (one frame): a frame addressed to stream `f.sid` — data, open, close,
open-acknowledgement, padding, whatever its id is known, unknown or finished — leaves the
complete state of every *other* stream id untouched.  (Fatal session-level commands are the
subject of C09; Settings/HeartRequest only write session-level replies — see
`quiet_or_session_level`.) -/
theorem no_crosstalk (s : Sess) (f : Frame) (hwf : s.WF) (hq : quietCmd f.cmd = true)
    (k : Nat) (hk : k ≠ f.sid) :
    view (s.handleFrame f).1 k = view s k := by
  have hl := handleFrame_quiet_local s f hq hwf
  have key : ∀ t, TblOk t s.objs → (tblGet t k).bind (fun h => (s.handleFrame f).1.objs[h]?) =
      (tblGet t k).bind (fun h => s.objs[h]?) := by
    intro t ht
    cases hg : tblGet t k with
    | none => rfl
    | some h =>
      obtain ⟨o, ho, hs⟩ := ht k h hg
      rw [Option.bind_some, Option.bind_some, ho, hl.objs h o ho (hs ▸ hk)]
  rw [view, hl.streams k hk, hl.recv k hk, key _ hwf.recv_ok, key _ hwf.streams_ok]
  rfl

theorem quiet_or_session_level (c : Cmd) :
    quietCmd c = true ∨ c = .settings ∨ c = .alert ∨ c = .heartRequest := by
  cases c <;> simp [quietCmd]

/-- frames that never touch stream `k` -/
def avoids (k : Nat) (fs : List Frame) : Prop := ∀ f ∈ fs, quietCmd f.cmd = true ∧ f.sid ≠ k

/-- T2.6 `no_crosstalk_history`: any sequence of frames addressed to other ids, in any
order (open/data/close of ids never opened, not yet opened, already finished, reused), leaves
stream `k` exactly as it was. -/
theorem no_crosstalk_history (fs : List Frame) : ∀ (s : Sess), s.WF → ∀ k, avoids k fs →
    (s.handleFrames fs).2 = .continue ∧ (s.handleFrames fs).1.WF ∧
    view (s.handleFrames fs).1 k = view s k := by
  induction fs with
  | nil => intro s hwf k _; exact ⟨rfl, hwf, rfl⟩
  | cons f fs ih =>
    intro s hwf k hav
    obtain ⟨⟨hq, hne⟩, hav⟩ := List.forall_mem_cons.mp hav
    rw [handleFrames_cons_quiet s f fs hq]
    obtain ⟨a, b, c⟩ := ih _ ((handleFrame_quiet_local s f hq hwf).wf hwf) k hav
    exact ⟨a, b, c.trans (no_crosstalk s f hwf hq k (fun e => hne e.symm))⟩

/-- T2.2a: data or an open-acknowledgement for an id that is not registered changes nothing. -/
theorem unknown_push_inert (s : Sess) (f : Frame) (hc : f.cmd = .push)
    (h : tblGet s.recv f.sid = none) : (s.handleFrame f).1 = s := by
  rw [handleFrame_push_eq s f hc, h]; rfl

theorem unknown_synack_inert (s : Sess) (f : Frame) (hc : f.cmd = .synAck)
    (h : tblGet s.streams f.sid = none) : (s.handleFrame f).1 = s := by
  rw [handleFrame_synAck_eq s f hc, h]
  split <;> rfl

/-- T2.2b: a close frame for an id that is not registered leaves every lookup and every
object as they were. -/
theorem unknown_fin_inert (s : Sess) (f : Frame) (hc : f.cmd = .fin)
    (h1 : tblGet s.recv f.sid = none) (h2 : tblGet s.streams f.sid = none) :
    (∀ k, view (s.handleFrame f).1 k = view s k) := by
  intro k
  have hd : s.dropRecvEntry f.sid = s := by rw [dropRecvEntry_eq, h1]; rfl
  have hf : s.failPendingOpen f.sid = s := by rw [failPendingOpen_eq, h2]; rfl
  rw [handleFrame_fin_eq s f hc, hd, hf]
  simp only [view, Sess.release, tblGet_remove]
  by_cases hk : k = f.sid
  · subst hk; simp [h1, h2]
  · simp [hk]

/-- T2.3: data for a registered id appends exactly its payload to exactly that stream's
inbound queue and changes neither table. -/
theorem push_appends (s : Sess) (f : Frame) (hc : f.cmd = .push) (h : Nat)
    (hr : tblGet s.recv f.sid = some h) :
    (s.handleFrame f).1.objs[h]? = (s.objs[h]?).map (fun o => { o with rd := o.rd.push f.data }) ∧
    (s.handleFrame f).1.recv = s.recv ∧ (s.handleFrame f).1.streams = s.streams := by
  rw [handleFrame_push_eq s f hc]
  refine ⟨by rw [modAt_getElem?, if_pos hr], ?_, ?_⟩ <;> rw [modAt_eq]

/-- T2.4a: `open_stream` on an open session advances the allocator (`allocated` records the value it
had as the id handed out); on a closed session it does nothing (`open_closed`). -/
theorem open_advances (s : Sess) (hcl : s.closed = false) :
    (s.openStream).1.nextSid = s.nextSid + 1 := by
  unfold Sess.openStream
  simp only [hcl, Bool.false_eq_true, if_false]
  split <;> (rename_i e; exact (congrArg (·.1.nextSid) e).symm.trans (writeFrame_nextSid _ _))

theorem open_closed (s : Sess) (hcl : s.closed = true) : s.openStream = (s, .errClosed, none) := by
  unfold Sess.openStream
  simp [hcl]

/-- operations of a session history -/
inductive Op where
  | open
  | frame (f : Frame)

/-- the stream ids handed out by `open_stream` along a history, oldest first -/
def allocated : Sess → List Op → List Nat
  | _, [] => []
  | s, .open :: ops =>
    if s.closed then allocated s ops else s.nextSid :: allocated (s.openStream).1 ops
  | s, .frame f :: ops => allocated (s.handleFrame f).1 ops

theorem allocated_ge (s : Sess) (ops : List Op) : ∀ i ∈ allocated s ops, s.nextSid ≤ i := by
  fun_induction allocated s ops with
  | case1 => intro i hi; cases hi
  | case2 s ops hc ih => exact ih
  | case3 s ops hc ih =>
    intro i hi
    rcases List.mem_cons.mp hi with rfl | hi
    · exact Nat.le_refl _
    · have := ih i hi
      rw [open_advances s (by simpa using hc)] at this
      omega
  | case4 s f ops ih => rw [← handleFrame_nextSid s f]; exact ih

/-- T2.4 `ids_never_reused`: along every history of opens and received frames (of every kind), the
ids handed out are strictly increasing — an id is never reused within a session (as long as
the 32-bit allocator does not wrap, i.e. fewer than 2^32 opens). -/
theorem ids_never_reused (ops : List Op) : ∀ (s : Sess), (allocated s ops).Pairwise (· < ·) := by
  intro s
  fun_induction allocated s ops with
  | case1 => exact .nil
  | case2 s ops hc ih => exact ih
  | case3 s ops hc ih =>
    refine List.pairwise_cons.mpr ⟨fun i hi => ?_, ih⟩
    have := allocated_ge _ ops i hi
    rw [open_advances s (by simpa using hc)] at this
    omega
  | case4 s f ops ih => exact ih

/-- non-vacuity: a well-formed server state with two streams; a PSH for stream 5 leaves
stream 3 as it was -/
def exS : Sess :=
  { Sess.initServer { raw := [], map := [], stop := 0 } "" 0 with
    objs := [{ sid := 3 }, { sid := 5 }], recv := [(3, 0), (5, 1)], streams := [(3, 0), (5, 1)] }

example : view (exS.handleFrame { cmd := .push, sid := 5, data := [1, 2] }).1 3 = view exS 3 := by decide
example : ((view (exS.handleFrame { cmd := .push, sid := 5, data := [1, 2] }).1 5).1.map (·.rd.queue))
    = some [[1, 2]] := by decide

end AnyTLS.C02
