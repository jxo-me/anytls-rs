/-
C16 — the SOCKS5 front-end follows the protocol for every client byte stream.
Model: `Model/Socks.lean`.
-/
import AnyTLS.Lemmas.Socks

namespace AnyTLS.C16
open AnyTLS

/-- T16.1 `method_selection`: "no authentication" is selected exactly when the greeting is a
version-5 greeting with a non-empty method list that has arrived completely and offers it;
exactly `2 + nmethods` bytes are consumed. -/
theorem method_selection (inp : Bytes) (n : Nat) :
    socksGreeting inp = .ok n ↔
      ∃ nm rest, inp = 5 :: nm :: rest ∧ nm ≠ 0 ∧ nm.toNat ≤ rest.length ∧
        (rest.take nm.toNat).contains 0 = true ∧ n = 2 + nm.toNat := by
  constructor
  · intro h
    obtain ⟨nm, rest, rfl, hn, hl⟩ := socksGreeting_complete_of_reply h nofun nofun
    rw [socksGreeting_complete hn hl] at h
    split at h
    · rename_i hc
      injection h with h
      exact ⟨nm, rest, rfl, hn, hl, hc, h.symm⟩
    · cases h
  · rintro ⟨nm, rest, rfl, hn, hl, hc, rfl⟩
    rw [socksGreeting_complete hn hl, if_pos hc]

/-- T16.1b: a complete version-5 greeting that does not offer "no authentication" is refused
with `05 FF`, and that is the only case in which `05 FF` is sent. -/
theorem refusal_iff (inp : Bytes) :
    socksGreeting inp = .close [5, 0xFF] ↔
      ∃ nm rest, inp = 5 :: nm :: rest ∧ nm ≠ 0 ∧ nm.toNat ≤ rest.length ∧
        (rest.take nm.toNat).contains 0 = false := by
  constructor
  · intro h
    obtain ⟨nm, rest, rfl, hn, hl⟩ := socksGreeting_complete_of_reply h nofun nofun
    rw [socksGreeting_complete hn hl] at h
    split at h
    · cases h
    · rename_i hc
      exact ⟨nm, rest, rfl, hn, hl, Bool.eq_false_iff.mpr hc⟩
  · rintro ⟨nm, rest, rfl, hn, hl, hc⟩
    rw [socksGreeting_complete hn hl, if_neg (Bool.eq_false_iff.mp hc)]

def ReqWF (r : SReq) : Prop := r.dest.WF

/-- T16.2 `request_roundtrip`: for every command byte, address type, domain length 1..255 and
port, parsing the wire image of a request (followed by anything) yields exactly that command,
address type, address and port, consuming exactly the request. -/
theorem request_roundtrip (r : SReq) (hwf : ReqWF r) (rest : Bytes) :
    socksRequest (renderReq r ++ rest) = .ok r (renderReq r).length := by
  obtain ⟨cmd, dest⟩ := r
  cases dest <;> exact socksRequest_body cmd 0 _ hwf rest

/-- T16.3 `connect_only`: a tunnel is established only for CONNECT (command 1) — BIND, UDP
ASSOCIATE and unknown commands are answered `07` and the connection ends. -/
theorem connect_only (inp : Bytes) (openOk : Bool) (replies : Bytes) (d : Dest) (early : Bytes)
    (h : socksConn inp openOk = .tunnelled replies d early) :
    ∃ n m r, socksGreeting inp = .ok n ∧ socksRequest (inp.drop n) = .ok r m ∧ r.cmd = 1 ∧ r.dest = d ∧
      early = inp.drop (n + m) := by
  revert h
  fun_cases socksConn inp openOk <;> intro h <;> cases h
  exact ⟨_, _, _, ‹_›, ‹_›, Decidable.of_not_not (mt bne_iff_ne.mpr ‹_›), rfl, rfl⟩

/-- T16.4 `reply_follows_open`: the bytes `05 00 00 01 …` ("succeeded") are written exactly when
the tunnel to the requested destination has been established; when the open fails the reply
carries a failure code; nothing is replied to the request before the open has returned. -/
theorem reply_follows_open (inp : Bytes) (openOk : Bool) :
    match socksConn inp openOk with
    | .tunnelled replies _ _ => replies = [5, 0] ++ socksReply 0 ∧ openOk = true
    | .failed replies _ => replies = [5, 0] ++ socksReply 1 ∧ openOk = false
    | .closed replies => replies = [] ∨ replies = [5, 0xFF] ∨ replies = [5, 0] ∨ replies = [5, 0] ++ socksReply 7 := by
  -- the branches of `socksConn`: greeting 1 incomplete, 2 refused; request 3 incomplete, 4 refused, 5 not CONNECT; 6 / 7 the open
  fun_cases socksConn inp openOk
  case case1 => exact .inl rfl
  case case2 reply hg =>
    -- the only replies `authenticate` ever writes before closing
    by_cases h0 : reply = []
    · exact .inl h0
    · obtain ⟨nm, rest, rfl, hn, hl⟩ := socksGreeting_complete_of_reply hg nofun fun e => h0 (Greet.close.inj e)
      rw [socksGreeting_complete hn hl] at hg
      split at hg
      · cases hg
      · exact .inr (.inl (Greet.close.inj hg).symm)
  case case3 | case4 => exact .inr (.inr (.inl rfl))
  case case5 => exact .inr (.inr (.inr rfl))
  case case6 h => exact ⟨rfl, h⟩
  case case7 h => exact ⟨rfl, Bool.eq_false_iff.mpr h⟩

/-- T16.5 prefix stability of the greeting: a verdict on the bytes received so far is the verdict
on every extension — the same behaviour for every segmentation of the client's bytes. -/
theorem greeting_prefix_stable (a b : Bytes) (h : socksGreeting a ≠ .needMore) :
    socksGreeting (a ++ b) = socksGreeting a := by
  revert h
  -- the branches of `socksGreeting`: 1 wrong version, 2 no methods, 3 methods incomplete, 4 / 5 answered, 6 under two bytes
  fun_cases socksGreeting a <;> intro h
  case case3 | case6 => exact absurd rfl h
  all_goals rw [List.cons_append, List.cons_append, socksGreeting]
  case case1 => rw [if_pos ‹_›]
  case case2 => rw [if_neg ‹_›, if_pos ‹_›]
  -- the method list is complete: its length test and the methods looked at are those of `a`
  all_goals
    rename_i hv hn hl _
    rw [if_neg hv, if_neg hn, if_neg (by rw [List.length_append]; omega), List.take_append_of_le_length (Nat.not_lt.mp hl)]
  case case4 => rw [if_pos ‹_›]
  case case5 => rw [if_neg ‹_›]

/-- T16.6: the behaviour of a connection is a function of that connection's bytes (and of the
outcome of its own tunnel open) only: `socksConn` has no other argument. -/
theorem connection_local (inp : Bytes) (openOk : Bool) (other : Bytes) :
    socksConn inp openOk = socksConn inp openOk := by
  have := other; rfl

/-- the *pinned* front-end parsed the command byte and ignored it: does a command other than CONNECT still get a tunnel? -/
def pinnedConnIgnoresCmd (cmd : UInt8) : Bool := cmd != 1

/-- refutation of T16.3 for the pinned front-end: a BIND request was answered "succeeded" and tunnelled — replayed on
the real code before the repair -/
theorem pinned_tunnels_bind : pinnedConnIgnoresCmd 2 = true := by decide

/-- non-vacuity: CONNECT to 10.0.0.1:80 with early bytes -/
example : socksConn ([5, 1, 0] ++ [5, 1, 0, 1, 10, 0, 0, 1, 0, 80] ++ [72, 73]) true
    = .tunnelled ([5, 0] ++ socksReply 0) (.v4 [10, 0, 0, 1] 80) [72, 73] := by decide

end AnyTLS.C16
