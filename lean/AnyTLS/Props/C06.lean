/-
C06 — only holders of the password get a session.
Model: `Model/Auth.lean`.
-/
import AnyTLS.Model.Auth
import AnyTLS.Lemmas.Frame

namespace AnyTLS.C06
open AnyTLS

/-- T6.1 `auth_accept_iff`: a connection is accepted iff its first 32 bytes are the expected
hash and the declared padding has arrived; exactly preamble + declared padding is consumed. -/
theorem auth_accept_iff (exp inp : Bytes) (n : Nat) :
    authServer exp inp = .accept n ↔
      inp.length ≥ 34 ∧ inp.take 32 = exp ∧ n = 34 + rd16 (inp.getD 32 0) (inp.getD 33 0) ∧ n ≤ inp.length := by
  fun_cases authServer exp inp
  next h => exact ⟨nofun, fun h' => absurd h (Nat.not_lt.mpr (Nat.le_trans (by decide) h'.1))⟩
  next h => exact ⟨nofun, fun h' => absurd h'.2.1 (bne_iff_ne.mp h)⟩
  next h => exact ⟨nofun, fun h' => absurd h (Nat.not_lt.mpr h'.1)⟩
  next h => exact ⟨nofun, fun ⟨_, _, hn, h'⟩ => absurd h (Nat.not_lt.mpr (hn ▸ h'))⟩
  next _ h2 h3 _ h4 =>
    exact ⟨fun h => by cases h; exact ⟨Nat.le_of_not_lt h3, Decidable.of_not_not (mt bne_iff_ne.mpr h2), rfl, Nat.le_of_not_lt h4⟩,
      fun h => by rw [h.2.2.1]⟩

/-- T6.2: every 32-byte string other than the hash — however close: a single flipped bit, a
single changed byte, the hash of a related password — is rejected as soon as 32 bytes are in,
and nothing else is. -/
theorem auth_reject_iff (exp inp : Bytes) :
    authServer exp inp = .reject ↔ inp.length ≥ 32 ∧ inp.take 32 ≠ exp := by
  fun_cases authServer exp inp with
  | case1 h => exact ⟨nofun, fun h' => absurd h (Nat.not_lt.mpr h'.1)⟩
  | case2 h1 h2 => exact ⟨fun _ => ⟨Nat.le_of_not_lt h1, bne_iff_ne.mp h2⟩, fun _ => rfl⟩
  | case3 _ h2 _ | case4 _ h2 _ _ _ | case5 _ h2 _ _ _ => exact ⟨nofun, fun h' => absurd (bne_iff_ne.mpr h'.2) h2⟩

theorem getD_append_of_lt (a b : Bytes) (i : Nat) (h : i < a.length) : (a ++ b).getD i 0 = a.getD i 0 := by
  simp [List.getD, List.getElem?_append_left h]

/-- T6.3 `auth_prefix_stable`: a verdict reached on the bytes received so far is the verdict on
every extension — hence the same for every fragmentation of the preamble on the transport. -/
theorem auth_prefix_stable (exp a b : Bytes) (h : authServer exp a ≠ .needMore) :
    authServer exp (a ++ b) = authServer exp a := by
  have hl : a.length ≤ (a ++ b).length := List.length_append ▸ Nat.le_add_right _ _
  cases hv : authServer exp a with
  | needMore => exact absurd hv h
  | reject =>
    obtain ⟨h1, h2⟩ := (auth_reject_iff exp a).mp hv
    exact (auth_reject_iff ..).mpr ⟨Nat.le_trans h1 hl, by rwa [List.take_append_of_le_length h1]⟩
  | accept n =>
    obtain ⟨h1, h2, h3, h4⟩ := (auth_accept_iff exp a n).mp hv
    rw [auth_accept_iff, List.take_append_of_le_length (by omega), getD_append_of_lt a b 32 (by omega),
      getD_append_of_lt a b 33 (by omega)]
    exact ⟨Nat.le_trans h1 hl, h2, h3, Nat.le_trans h4 hl⟩

/-- truncated preambles: anything shorter than hash + length + declared padding is never a
verdict "accept" -/
theorem truncated_never_accepted (exp inp : Bytes) (h : inp.length < 34) :
    ∀ n, authServer exp inp ≠ .accept n := by
  intro n hacc
  have := (auth_accept_iff exp inp n).mp hacc
  omega

/-- T6.4 `skip_exact`: for every declared padding length 0..65535 the frame decoder of an
accepted connection starts at the first byte after the padding. -/
theorem skip_exact (exp hash pad rest : Bytes) (p : Nat) (hh : hash.length = 32) (he : hash = exp)
    (hp : p < 65536) (hpad : pad.length = p) :
    authServer exp (hash ++ be16 p ++ pad ++ rest) = .accept (34 + p) ∧
    serverConnFrames exp (hash ++ be16 p ++ pad ++ rest) = some (decodeAll rest).1 := by
  subst he hpad
  have hacc : authServer hash (hash ++ be16 pad.length ++ pad ++ rest) = .accept (34 + pad.length) := by
    rw [be16, auth_accept_iff]
    simp [List.getD_eq_getElem?_getD, List.getElem?_append_right, hh, rd16_ofNat _ hp]
    omega
  refine ⟨hacc, ?_⟩
  rw [serverConnFrames, hacc]
  exact congrArg (fun l => some (decodeAll l).1) (List.drop_left' (by rw [List.length_append, List.length_append, hh, be16_length]))

/-- T6.5 `no_session_without_accept`: unless the first 32 bytes are the expected hash the
server connection never acts on a single frame — no stream callback, no dial, no reply —
whatever follows and however long the connection stays open. -/
theorem no_session_without_accept (exp inp : Bytes) (h : inp.take 32 ≠ exp ∨ inp.length < 34) :
    serverConnFrames exp inp = none := by
  unfold serverConnFrames
  cases hv : authServer exp inp with
  | accept n =>
    obtain ⟨h1, h2, _, _⟩ := (auth_accept_iff exp inp n).mp hv
    rcases h with h | h
    · exact absurd h2 h
    · omega
  | _ => rfl

/-! ### the gate of the server connection (`handle_connection`, shape regenerated into `Gen.authGate`) -/

/-- Obligation on the code: `authenticate_client` is awaited once, bare, between the split of the TLS stream and the
construction of the session on the same reader. -/
theorem gen_auth_gate_bare : Gen.authGate = .bareOnce := by decide

/-- a bare gate is `authServer` on everything received: pauses, timers and the way the bytes are cut into reads do not
exist for it -/
theorem bare_gate_is_authServer (exp : Bytes) : ∀ (evs : List ConnEv) (acc : Bytes),
    gateRun .bareOnce exp acc evs = authServer exp (acc ++ bytesOf evs) := by
  intro evs acc
  fun_induction gateRun .bareOnce exp acc evs with
  | case1 => rw [bytesOf, List.append_nil]
  | case2 _ _ _ ih => exact ih
  | case4 _ _ _ _ ih => rw [ih, List.append_assoc]; rfl
  | case3 _ _ h | case5 _ _ _ h => exact (auth_prefix_stable exp _ _ h).symm

/-- T6.6 `gate_accept_iff`: the listening server's connection task lets a connection through iff the first 32 bytes of
everything it received are the hash (and the declared padding is in) — for every way the bytes arrive, every pause
between them and every timer that fires meanwhile. -/
theorem gate_accept_iff (exp : Bytes) (evs : List ConnEv) (n : Nat) :
    gateRun Gen.authGate exp [] evs = .accept n ↔
      (bytesOf evs).length ≥ 34 ∧ (bytesOf evs).take 32 = exp ∧
      n = 34 + rd16 ((bytesOf evs).getD 32 0) ((bytesOf evs).getD 33 0) ∧ n ≤ (bytesOf evs).length := by
  rw [gen_auth_gate_bare, bare_gate_is_authServer, List.nil_append]
  exact auth_accept_iff exp (bytesOf evs) n

/-- the excluded shape, refuted by a witness: three stray bytes, a timer expiry, then the genuine preamble — the retried
call takes the later bytes for "the first 32" and lets the connection through although what it received does not start
with the hash (and, symmetrically, a holder of the password who pauses after the hash is turned away). -/
theorem timed_retry_accepts_stray_prefix :
    gateRun .timedRetry (zeros 32) [] [.bytes [1, 2, 3], .tick, .bytes (zeros 32 ++ [0, 0])] = .accept 34 ∧
    gateRun .timedRetry (zeros 32) [] [.bytes (zeros 32), .tick, .bytes [0, 0]] = .needMore ∧
    gateRun .bareOnce (zeros 32) [] [.bytes [1, 2, 3], .tick, .bytes (zeros 32 ++ [0, 0])] = .reject ∧
    gateRun .bareOnce (zeros 32) [] [.bytes (zeros 32), .tick, .bytes [0, 0]] = .accept 34 := by
  decide +kernel

/-- non-vacuity: a 32-byte hash, declared padding 2, then a SYN frame -/
example :
    let hash : Bytes := List.replicate 32 7
    serverConnFrames hash (hash ++ [0, 2, 0, 0] ++ [1, 0, 0, 0, 1, 0, 0])
      = some [{ cmd := .syn, sid := 1, data := [] }] := by decide +kernel

end AnyTLS.C06
