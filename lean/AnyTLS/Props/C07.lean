/-
C07 — traffic goes to exactly the destination that was requested.
Model: `Model/Dest.lean` (client encoding, server decoding over the chunk-queue reader,
resolver cache).  Fragmentation independence comes from `readExact_spec` (Lemmas/Reader).
-/
import AnyTLS.Lemmas.Dest
import AnyTLS.Model.UdpRelay

namespace AnyTLS.C07
open AnyTLS

/-- T7.1 `dest_roundtrip`: for every destination (IPv4, IPv6, domain of 1..255 bytes, any
port), whatever follows it on the stream and however the bytes are cut into frames and
reads (`r` is *any* well-formed reader state whose deliverable bytes are the encoding
followed by `tail`: any chunking, any part already buffered), the server-side reader returns
exactly that destination and leaves exactly `tail`. -/
theorem dest_roundtrip (d : Dest) (hd : d.WF) (tail enc : Bytes) (henc : encodeDest d = some enc)
    (r : RState) (hwf : r.WF) (hpend : r.pending = enc ++ tail) :
    ∃ r', decodeDest r = (.ok d, r') ∧ r'.pending = tail ∧ r'.WF := by
  rw [encodeDest_of_wf hd] at henc
  cases henc
  obtain ⟨r1, e1, hp1, hw1⟩ := read1_spec hwf hpend
  obtain ⟨r2, e2, hp2, hw2⟩ := readByAtyp_spec hd hw1 hp1
  exact ⟨r2, by rw [decodeDest, e1]; exact e2, hp2, hw2⟩

/-- T7.2: the same for the UDP association's initial request (`isConnect | atyp | addr |
port`; the client encodes socket addresses, i.e. IPv4 or IPv6). -/
theorem udp_request_roundtrip (d : Dest) (hd : d.WF) (tail enc : Bytes) (henc : encodeUdpRequest d = some enc)
    (r : RState) (hwf : r.WF) (hpend : r.pending = enc ++ tail) :
    ∃ r', decodeUdpRequest r = (.ok d, r') ∧ r'.pending = tail ∧ r'.WF := by
  cases encodeUdpRequest_some henc
  obtain ⟨r1, e1, hp1, hw1⟩ := rdX_one hwf hpend
  obtain ⟨r2, e2, hp2, hw2⟩ := rdX_one hw1 hp1
  obtain ⟨r3, e3, hp3, hw3⟩ := readByAtyp_spec hd hw2 hp2
  exact ⟨r3, by simp [decodeUdpRequest, e1, e2, e3], hp3, hw3⟩

/-- T7.3 `encode_rejects_long`: a domain name longer than 255 bytes is refused and no
destination bytes are produced; every other destination is encoded. -/
theorem encode_rejects_long (d : Bytes) (p : Nat) :
    (d.length > 255 → encodeDest (.domain d p) = none) ∧
    (d.length ≤ 255 → (encodeDest (.domain d p)).isSome = true) := by
  constructor
  · intro h; simp [encodeDest, h]
  · intro h
    have : ¬ d.length > 255 := by omega
    simp [encodeDest, this]

/-- T7.4 `resolve_port`: whatever the cache holds (any earlier requests for the same host with
other ports, other hosts, entries expired or not) and whatever the resolver answers, the
address returned for a request (H, P) carries port P. -/
theorem resolve_port (c : DnsCache) (host : Bytes) (port : Nat) (lookup : List Bytes) (ip : Bytes) (p' : Nat)
    (h : (dnsResolve c host port lookup).2 = some (ip, p')) : p' = port :=
  (dnsResolve_some h).1

/-- T7.5: the IP returned for H is an address *of H*: one stored in H's own unexpired cache
entry, or one from the fresh answer for H — never one belonging to another host. -/
theorem resolve_ip_of_host (c : DnsCache) (host : Bytes) (port : Nat) (lookup : List Bytes) (ip : Bytes) (p' : Nat)
    (h : (dnsResolve c host port lookup).2 = some (ip, p')) :
    ip ∈ lookup ∨ ∃ e, dnsFind c host = some e ∧ e.expired = false ∧ ip ∈ e.addrs.map (·.1) :=
  (dnsResolve_some h).2

/-- T7.4 refutation for the *pinned* hit branch (the stored `SocketAddr` is returned with the
port of the request that filled the entry): `localhost:80` then `localhost:443` ⇒ port 80. -/
theorem pinned_hit_wrong_port :
    (resolvePinnedHit { host := [104], addrs := [([127, 0, 0, 1], 80)], expired := false, next := 1 } 443).2 = 80 := by
  decide

/-- non-vacuity: a 3-byte domain with port 443 split over three chunks -/
example : (decodeDest { queue := [[3, 3, 97], [46], [98, 1, 187, 9]] }).1 matches .ok (.domain [97, 46, 98] 443) := by
  decide

/-! ### ordinary destinations are dialled: the server's dispatch between the TCP relay and the UDP relay

`TcpProxyHandler::handle_stream` hands a stream to the UDP-over-TCP relay — which answers "connected" at once and never
dials the destination — when the destination's host name passes a test.  The test is regenerated from the source
(`Gen.udpMagicRule`), and so is the name the client opens for an association (`Gen.udpMagicAddr`). -/

/-- Obligation on the code: only the reserved name and names below it are taken for UDP-over-TCP streams. -/
theorem gen_magic_rule : Gen.udpMagicRule = .reservedSuffix := by decide

/-- `ordinary_names_are_dialled`: every host name that is neither the reserved name nor below it — whatever it
contains — goes to the TCP path, i.e. is resolved and dialled (`resolve_port`, `resolve_ip_of_host`). -/
theorem ordinary_names_are_dialled (name : List Char) (h1 : name ≠ UdpRelay.reservedName)
    (h2 : ¬ ('.' :: UdpRelay.reservedName) <:+ name) : UdpRelay.isUdpName Gen.udpMagicRule name = false := by
  rw [gen_magic_rule]
  simp only [UdpRelay.isUdpName, Bool.or_eq_false_iff]
  refine ⟨by simpa using h1, ?_⟩
  cases h : ('.' :: UdpRelay.reservedName).isSuffixOf name with
  | false => rfl
  | true => exact absurd (List.isSuffixOf_iff_suffix.mp h) h2

/-- ... and the name the client opens for a UDP association is recognised (so the two ends agree). -/
theorem client_magic_recognised : UdpRelay.isUdpName Gen.udpMagicRule Gen.udpMagicAddr = true := by decide

/-- the excluded rule, refuted by a witness: an ordinary name that merely contains the reserved text was taken for a
UDP-over-TCP stream — answered "connected", never dialled (the defect repaired in `ea5ec91`, replayed end to end by
`e2e echo socks_magic`). -/
theorem contains_rule_refuted :
    UdpRelay.isUdpName .contains "my-udp-over-tcp.arpa.example.test".toList = true ∧
    UdpRelay.isUdpName .reservedSuffix "my-udp-over-tcp.arpa.example.test".toList = false := by
  -- the literal's characters by `String.toList_ofList`: `String.toList` itself decodes its UTF-8 bytes one position at a time
  rw [String.toList_ofList]
  decide

end AnyTLS.C07
