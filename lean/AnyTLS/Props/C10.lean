/-
C10 — opening a stream reports the server's verdict exactly once.
Model: `Model/Open.lean` (client wait), `Model/Session.lean` (pending-open slot), and the
server handler's answer rule below.
-/
import AnyTLS.Model.Open
import AnyTLS.Lemmas.Session
import AnyTLS.Props.C02
import AnyTLS.Props.C11

namespace AnyTLS.C10
open AnyTLS AnyTLS.Gen

/-- Gen obligation: the wait is 30 s. -/
theorem gen_timeout : timeoutMs = 30000 := by decide

/-- a resolved request is not touched again, neither by its timer nor by a later verdict -/
theorem fireTimeouts_keeps (st : OpenSt) (i : Nat) (r : Req) (x : OpenRes × Nat)
    (hr : st.reqs[i]? = some r) (hd : r.done = some x) : (fireTimeouts st).reqs[i]? = some r := by
  simp [fireTimeouts, hr, hd]

theorem collect_keeps (st : OpenSt) (i : Nat) (r : Req) (x : OpenRes × Nat)
    (hr : st.reqs[i]? = some r) (hd : r.done = some x) : (collect st).reqs[i]? = some r := by
  simp [collect, hr, hd]

/-- operations of the model after the requests were started -/
inductive Ev where
  | feed (bytes : Bytes)
  | peerEnd
  | ownerClose
  | advance (ms : Nat)
  | start (dest : Bytes)

def step (st : OpenSt) : Ev → OpenSt
  | .feed b => st.feed b
  | .peerEnd => st.sessionEnd false
  | .ownerClose => st.sessionEnd true
  | .advance ms => st.advance ms
  | .start d => st.start d

theorem step_keeps (st : OpenSt) (e : Ev) (i : Nat) (r : Req) (x : OpenRes × Nat)
    (hr : st.reqs[i]? = some r) (hd : r.done = some x) : (step st e).reqs[i]? = some r := by
  have hf := fireTimeouts_keeps st i r x hr hd
  cases e with
  | feed _ | peerEnd | ownerClose => exact collect_keeps { fireTimeouts st with s := _ } i r x hf hd
  | advance ms => exact fireTimeouts_keeps { st with now := st.now + ms } i r x hr hd
  | start d =>
    simp only [step, OpenSt.start]
    split
    · refine collect_keeps _ i r x ?_ hd
      rw [List.getElem?_append_left (List.getElem?_eq_some_iff.mp hr).1]; exact hr
    · exact hr

/-- T10.1 `first_outcome_wins`: once a request has an outcome, no later event of any kind —
a duplicated or contradicting SYNACK, a SYNACK after the timeout, the session dying, more
time passing, other requests starting — ever changes it: every request completes at most
once, with the first resolving event. -/
theorem first_outcome_wins (evs : List Ev) : ∀ (st : OpenSt) (i : Nat) (r : Req) (x : OpenRes × Nat),
    st.reqs[i]? = some r → r.done = some x →
    ∃ r', (evs.foldl step st).reqs[i]? = some r' ∧ r'.done = some x := by
  induction evs with
  | nil => intro st i r x hr hd; exact ⟨r, hr, hd⟩
  | cons e evs ih =>
    intro st i r x hr hd
    exact ih (step st e) i r x (step_keeps st e i r x hr hd) hd

/-- T10.2 `outcome_total`: every request has an outcome once its 30 s have passed — it
completes at least once, whatever happened or did not happen (no answer, answers for other
ids only, answers that came too late). -/
theorem outcome_total (st : OpenSt) (i : Nat) (r : Req) (hr : st.reqs[i]? = some r) (ms : Nat)
    (hlate : r.deadline < st.now + ms) : ((st.advance ms).outcome i).isSome = true := by
  unfold OpenSt.outcome OpenSt.advance
  simp only [fireTimeouts, List.getElem?_map, hr, Option.map_some, Option.bind_some]
  cases hd : r.done with
  | some x => simp [hd]
  | none => simp [hlate]

/-- a timeout outcome is only ever produced when the deadline has passed with the slot unresolved -/
theorem timeout_only_after_deadline (st : OpenSt) (i : Nat) (r r' : Req) (t : Nat)
    (hr : st.reqs[i]? = some r) (hn : r.done = none)
    (hr' : (fireTimeouts st).reqs[i]? = some r') (hd : r'.done = some (.timeout, t)) :
    r.deadline < st.now ∧ t = r.deadline := by
  simp only [fireTimeouts, List.getElem?_map, hr, Option.map_some, Option.some.injEq, hn] at hr'
  split at hr' <;> subst hr'
  · cases hd; exact ⟨‹_›, rfl⟩
  · rw [hn] at hd; cases hd

/-- T10.3a: the outcome collected from a slot is `ok` exactly when the slot holds the server's
positive acknowledgement. -/
theorem verdict_ok_iff (sy : SynSt) : verdictOf sy = some .ok ↔ sy = .ok := by
  fun_cases verdictOf sy <;> simp

/-- T10.3b: a slot only ever becomes "acknowledged" by being told so: `notify_synack` turns a
pending slot into exactly what it is given and never changes a resolved one. -/
theorem notify_first_wins (o : Obj) (r : SynSt) :
    (o.synack = .pending → (o.notifySynack r).synack = r) ∧
    (o.synack ≠ .pending → (o.notifySynack r).synack = o.synack) := by
  fun_cases Obj.notifySynack o r <;> simp_all

/-- T10.3c: a SYNACK carrying a failure text never makes any request succeed: no slot that was
not already acknowledged becomes acknowledged. -/
theorem synack_error_never_ok (s : Sess) (f : Frame) (hc : f.cmd = .synAck) (hne : f.data ≠ [])
    (h : Nat) (o o' : Obj) (ho : s.objs[h]? = some o) (ho' : (s.handleFrame f).1.objs[h]? = some o')
    (hnot : o.synack ≠ .ok) : o'.synack ≠ .ok := by
  have hv : synackVerdict f.data ≠ .ok := by simp [synackVerdict, hne]
  rw [handleFrame_synAck_eq s f hc] at ho'
  split at ho'
  · rw [modAt_getElem?, ho] at ho'
    split at ho' <;> injection ho' with e <;> rw [← e]
    · exact notifySynack_ne_ok o _ hv hnot
    · exact hnot
  · rw [ho] at ho'; injection ho' with e; rw [← e]; exact hnot

/-- T10.3d: the session dying never makes a request succeed: `close` only ever fails pending
opens. -/
theorem close_never_ok (s : Sess) (h : Nat) (o o' : Obj) (ho : s.objs[h]? = some o)
    (ho' : s.close.objs[h]? = some o') (hnot : o.synack ≠ .ok) : o'.synack ≠ .ok := by
  unfold Sess.close at ho'
  split at ho'
  · rw [ho] at ho'; injection ho' with e; rw [← e]; exact hnot
  · simp only [List.getElem?_mapIdx, ho, Option.map_some, Option.some.injEq] at ho'
    rw [← ho']
    split <;> split <;> first
      | exact notifySynack_ne_ok o.closeWithError _ (by simp) hnot
      | exact hnot

/-- T10.5: slots of different stream ids are independent (instance of C02 `no_crosstalk`): any
number of racing opens each get their own verdict. -/
theorem slots_independent (s : Sess) (f : Frame) (hwf : s.WF) (hq : quietCmd f.cmd = true)
    (k : Nat) (hk : k ≠ f.sid) : C02.view (s.handleFrame f).1 k = C02.view s k :=
  C02.no_crosstalk s f hwf hq k hk

/-! ### the server's answer rule (src/server/handler.rs) -/

inductive Dial where
  | connected
  | failed (msg : String)
  | timedOut
  deriving Repr, DecidableEq

/-- frames the handler writes for a stream once the dial has returned, and whether forwarding
between stream and target starts -/
def serverAnswer (peerVersion sid : Nat) (d : Dial) : List Frame × Bool :=
  match d with
  | .connected => (if peerVersion ≥ 2 then [{ cmd := .synAck, sid := sid, data := [] }] else [], true)
  | .failed msg =>
    (if peerVersion ≥ 2 then [{ cmd := .synAck, sid := sid, data := asciiBytes "Failed to connect to " ++ asciiBytes msg }] else [], false)
  | .timedOut => (if peerVersion ≥ 2 then [{ cmd := .synAck, sid := sid, data := asciiBytes "Connection timeout" }] else [], false)

/-- T10.3e `ok_only_after_connect`: the server acknowledges positively, and starts forwarding,
only after it has connected to the target; a failed or timed-out dial is answered with a
non-empty reason and nothing is forwarded. -/
theorem ok_only_after_connect (pv sid : Nat) (d : Dial) :
    ((∃ f ∈ (serverAnswer pv sid d).1, f.cmd = .synAck ∧ f.data = []) → d = .connected) ∧
    ((serverAnswer pv sid d).2 = true ↔ d = .connected) := by
  constructor
  · rintro ⟨f, hf, _, hd⟩
    cases d <;> simp only [serverAnswer] at hf
    · rfl
    all_goals
      split at hf
      · rw [List.mem_singleton.mp hf] at hd
        -- the literal's characters by `String.toList_ofList`; `String.toList` itself decodes UTF-8 position by position
        unfold asciiBytes at hd; rw [String.toList_ofList] at hd; cases hd
      · cases hf
  · cases d <;> simp [serverAnswer]

/-- T10.6 `answer_finds_pending_open` (interleaving model M13): the step that submits a stream's
SYN registers the stream in both tables, so an answer that arrives at ANY later moment — also while
the opener is still inside the SYN write — finds the pending open (and `first_outcome_wins` applies). -/
theorem answer_finds_pending_open (cs cs' : CS) (t : Nat) (hpc : (cs.task t).pc = .openChecked) (hm : micro cs t = some cs') :
    tblGet cs'.s.streams cs.s.nextSid = some cs.s.objs.length ∧ tblGet cs'.s.recv cs.s.nextSid = some cs.s.objs.length ∧
    (cs'.task t).submitted = (cs.task t).submitted ++ [synBytes cs.s.nextSid] :=
  let h := AnyTLS.C11.registered_before_syn cs cs' t hpc hm
  ⟨h.1, h.2.1, h.2.2.2.1⟩

end AnyTLS.C10
