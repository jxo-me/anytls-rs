/-
C15 — UDP datagrams keep their boundaries and contents through the tunnel.
Model: `Model/Dest.lean` (`encodeDgram`, `readDgram`, `readDgrams`, `encodeUdpRequest`,
`decodeUdpRequest`).  The byte stream they ride on is C01's lossless pipe.
-/
import AnyTLS.Lemmas.Dest
import AnyTLS.Lemmas.UdpRelay
import AnyTLS.Props.C01
import AnyTLS.Props.C07

namespace AnyTLS.C15
open AnyTLS

/-- Gen obligations: both sides accept datagrams up to the same maximum, which fits the 16-bit
length prefix. -/
theorem gen_udp_max : Gen.udpMaxClient = 65535 ∧ Gen.udpMaxServer = 65535 := by decide

/-- T15.1a: one datagram — whatever follows it and however the length-prefixed byte stream is
fragmented across frames and reads, the reader returns exactly that datagram and leaves
exactly what followed. -/
theorem dgram_roundtrip_one (d rest : Bytes) (h1 : 1 ≤ d.length) (h2 : d.length ≤ 65535)
    (r : RState) (hwf : r.WF) (hpend : r.pending = be16 d.length ++ d ++ rest) :
    ∃ r', readDgram r = (.ok d, r') ∧ r'.pending = rest ∧ r'.WF :=
  readDgram_spec h2 hwf hpend

/-- nothing deliverable ⇒ no datagram is produced (the reader waits or reports the end) -/
theorem readDgram_empty (r : RState) (hwf : r.WF) (hpend : r.pending = []) :
    ∀ d r', readDgram r ≠ (.ok d, r') := by
  intro d r' h
  unfold readDgram rdX RState.readExact RState.readExactFuel at h
  rcases hr : r.read 2 with ⟨b | _ | _, r1⟩
  · have hs := read_spec (by omega) hwf hr
    exact hs.1 (List.append_eq_nil_iff.mp (hpend ▸ hs.2.2.1)).1
  · simp [hr] at h
  · simp [hr] at h

/-- wire image of a sequence of datagrams -/
def encodeAll : List Bytes → Bytes
  | [] => []
  | d :: ds => be16 d.length ++ d ++ encodeAll ds

/-- T15.1 `dgram_roundtrip`: every sequence of non-empty datagrams of up to 65 535 bytes, in any
fragmentation of the byte stream, is read back as exactly the same datagrams — one result per
datagram, in order, never merged, split or truncated. -/
theorem dgram_roundtrip (ds : List Bytes) (hds : ∀ d ∈ ds, 1 ≤ d.length ∧ d.length ≤ 65535) :
    ∀ (r : RState) (acc : List Bytes) (fuel : Nat), r.WF → r.pending = encodeAll ds → fuel > ds.length →
    (readDgrams fuel r acc).1 = acc.reverse ++ ds := by
  induction ds with
  | nil =>
    intro r acc fuel hwf hpend hf
    cases fuel with
    | zero => omega
    | succ n =>
      unfold readDgrams
      rcases hr : readDgram r with ⟨d | _ | _, r'⟩
      · exact absurd hr (readDgram_empty r hwf hpend d r')
      · simp
      · simp
  | cons d ds ih =>
    intro r acc fuel hwf hpend hf
    obtain ⟨⟨h1, h2⟩, hds⟩ := List.forall_mem_cons.mp hds
    cases fuel with
    | zero => omega
    | succ n =>
      unfold readDgrams
      obtain ⟨r', he, hp', hw'⟩ := dgram_roundtrip_one d (encodeAll ds) h1 h2 r hwf (by rw [hpend]; rfl)
      rw [he]
      simp only [List.isEmpty_iff, List.ne_nil_of_length_pos h1, if_false]
      rw [ih hds r' (d :: acc) n hw' hp' (by simp at hf; omega)]
      simp

/-- T15.2: the encoder refuses what does not fit the prefix (nothing is sent), accepts
everything else with an exact prefix, and a zero prefix is the one value the readers take for
the end of the association (hence "non-empty" in the statement). -/
theorem encode_dgram_exact (payload : Bytes) :
    (payload.length > 65535 → encodeDgram 65535 payload = none) ∧
    (payload.length ≤ 65535 → encodeDgram 65535 payload = some (be16 payload.length ++ payload)) := by
  constructor
  · intro h; simp [encodeDgram, h]
  · intro h
    have : ¬ payload.length > 65535 := by omega
    simp [encodeDgram, this]

theorem zero_prefix_is_end (rest : Bytes) (r : RState) (hwf : r.WF) (hpend : r.pending = [0, 0] ++ rest) :
    ∃ r', readDgram r = (.ok [], r') ∧ r'.pending = rest :=
  have ⟨r', e, hp, _⟩ := readDgram_spec (d := []) (Nat.zero_le _) hwf hpend
  ⟨r', e, hp⟩

/-- T15.3: a datagram of at most 65 507 bytes (the UDP maximum) plus its prefix is one chunk of
at most 65 509 bytes, i.e. it travels in a single data frame; with C01 (`pipe_lossless`) the
tunnel delivers the encoded stream unchanged for every fragmentation. -/
theorem dgram_single_frame (payload enc : Bytes) (h : payload.length ≤ 65507)
    (he : encodeDgram 65535 payload = some enc) :
    enc.length ≤ 65509 ∧ C01.pieces (enc.length + 1) enc = [enc] := by
  obtain rfl := Option.some.inj (he.symm.trans ((encode_dgram_exact payload).2 (by omega)))
  have hlen : (be16 payload.length ++ payload).length ≤ 65509 := by simp [be16_length]; omega
  exact ⟨hlen, if_neg (by omega)⟩

/-- T15.4: the initial request decodes to the target that was encoded (instance of C07). -/
theorem initial_request_roundtrip (d : Dest) (hd : d.WF) (tail enc : Bytes) (henc : encodeUdpRequest d = some enc)
    (r : RState) (hwf : r.WF) (hpend : r.pending = enc ++ tail) :
    ∃ r', decodeUdpRequest r = (.ok d, r') ∧ r'.pending = tail ∧ r'.WF :=
  C07.udp_request_roundtrip d hd tail enc henc r hwf hpend

/-- non-vacuity: two datagrams, the second one's prefix split across chunks -/
example : (readDgrams 5 { queue := [[0, 2, 7, 8, 0], [1, 9]] } []).1 = [[7, 8], [9]] := by decide

/-! ### The four relay loops around the tunnel stream (M15, `Model/UdpRelay.lean`)

`dgram_roundtrip` speaks about the encoder and the reader.  The loops that call them — which part of the receive
buffer is encoded, how many chunks are submitted per datagram, whether the datagram read can be dropped half-way by a
timer, which part of the payload goes to `send_to`, and in which address family the relay's socket is bound — are
regenerated from the source into `Gen.udpSites` / `Gen.udpBind`; the theorems below are about those. -/

open UdpRelay in
/-- Obligation on the code (regenerated table): every udp → stream loop encodes `&buf[..len]`, every stream → udp loop
awaits `read_udp_packet` bare and sends `&payload`. -/
theorem udp_sites_sound : Gen.udpSites.all UdpRelay.sound = true := by decide

/-- Obligation on the code: the relay's socket is bound in the address family of the target it has to reach (an
IPv4-only socket cannot send to an IPv6 target: the defect repaired in `1be5866`). -/
theorem relay_socket_family (f : UdpRelay.Family) : UdpRelay.bindFamily Gen.udpBind f = f := by
  cases f <;> rfl

/-- Obligation on the code: a datagram that meets a closed port (the target is not up yet, or restarts) does not end
the association — the relay's socket stays unconnected, so the ICMP answer never surfaces as an error of a later call
(both loops treat every socket error as fatal). -/
theorem association_survives_unreachable : UdpRelay.survivesUnreachable Gen.udpConnected = true := by decide

theorem connected_socket_refuted : UdpRelay.survivesUnreachable true = false := by decide

theorem ipv4_only_bind_refuted : UdpRelay.bindFamily .anyV4 .v6 ≠ .v6 := by decide

open UdpRelay in
/-- T15.5: for every loop of the code that reads datagrams from a socket: whatever earlier datagrams left in the
receive buffer, the tunnel stream is handed exactly one chunk per datagram, and that chunk is the datagram's exact
length-prefixed image. -/
theorem udp_to_stream_exact (s : Gen.UdpSite) (hs : s ∈ Gen.udpSites) (hd : s.dir = .toStream)
    (buf : Bytes) (ds : List Bytes) (hds : ∀ d ∈ ds, d.length ≤ 65535) :
    toStream 65535 s.slice buf ds = ds.map (fun d => be16 d.length ++ d) := by
  have hsound := List.all_eq_true.mp udp_sites_sound s hs
  simp only [sound, hd, beq_iff_eq] at hsound
  rw [hsound]
  exact toStream_prefixN 65535 ds buf hds

open UdpRelay in
/-- T15.6 `udp_tunnel_exact`: end to end over the two loops of one direction of an association.  `sa` is a loop of the
code that reads datagrams from a socket, `sb` a loop of the code that sends them on the far side.  For every sequence of
non-empty datagrams, every content of the receive buffer, every way the tunnel re-chunks the byte stream in between
(`evs` carries the same bytes, C01) and every moment at which a timer fires on the far side, the far socket sends
exactly those datagrams: one `send_to` each, identical contents, in order — never merged, split, truncated or dropped. -/
theorem udp_tunnel_exact (sa sb : Gen.UdpSite) (ha : sa ∈ Gen.udpSites) (hb : sb ∈ Gen.udpSites)
    (hda : sa.dir = .toStream) (hdb : sb.dir = .toUdp)
    (buf : Bytes) (ds : List Bytes) (hds : ∀ d ∈ ds, 1 ≤ d.length ∧ d.length ≤ 65535)
    (evs : List Ev) (hevs : flatten (chunksOf evs) = flatten (toStream Gen.udpMaxClient sa.slice buf ds)) :
    toUdp Gen.udpMaxServer sb.slice sb.wrap [] evs = ds := by
  rw [gen_udp_max.1, udp_to_stream_exact sa ha hda buf ds (fun d hd => (hds d hd).2), flatten_map_enc] at hevs
  rw [gen_udp_max.2]
  have hsound := List.all_eq_true.mp udp_sites_sound sb hb
  simp only [sound, hdb, Bool.and_eq_true, beq_iff_eq] at hsound
  rw [hsound.1, hsound.2]
  exact toUdp_bare_exact 65535 evs [] ds (fun d hd => ⟨(hds d hd).1, (hds d hd).2, (hds d hd).2⟩)
    (by simpa using hevs) (by cases ds <;> simp [Short] <;> omega)

/-- the two excluded shapes, refuted by witnesses.  A datagram read under a timer: the timer fires between the two
chunks that carry the first datagram, the bytes consumed so far are dropped with the read, and the stream is parsed from
the middle of a payload from then on. -/
theorem timed_read_loses_datagrams :
    UdpRelay.toUdp 65535 .whole .timed [] [.chunk [0, 2, 7], .tick, .chunk [8, 0, 1, 9]] ≠ [[7, 8], [9]] := by decide

/-- the whole receive buffer instead of `&buf[..len]`: a short datagram after a longer one carries the tail of the
longer one. -/
theorem whole_buffer_pads_datagrams :
    UdpRelay.toStream 65535 .whole [0, 0, 0] [[1, 2, 3], [4]] ≠ [[0, 3, 1, 2, 3], [0, 1, 4]] := by decide

/-- non-vacuity of `udp_tunnel_exact`: two datagrams, a stale buffer, the prefix of the second cut across chunks, a
timer between them -/
example : UdpRelay.toUdp 65535 .whole .bare [] [.chunk [0, 2, 7, 8, 0], .tick, .chunk [1, 9]] = [[7, 8], [9]] ∧
    flatten (UdpRelay.toStream 65535 .prefixN [5, 5, 5] [[7, 8], [9]]) = [0, 2, 7, 8, 0, 1, 9] := by decide

/-! ### replies reach the application that uses the association (client side, `last_peer`) -/

/-- Obligation on the code (the extractor fails closed on any other shape): replies go to the sender of the most
recent local datagram. -/
theorem gen_reply_rule : Gen.replyRule = .lastSender := by decide

open UdpRelay in
/-- T15.7 `replies_reach_the_application`: when one application (address `a`) uses the association — every local
datagram comes from `a` — and the history starts with a datagram of it (a target only answers what it was sent), every
reply decoded from the tunnel is sent on the local socket exactly once, in order, to `a`, for every interleaving of
datagrams and replies. -/
theorem replies_reach_the_application (a : Nat) : ∀ (es : List CEv),
    (∀ b d, CEv.fromApp b d ∈ es → b = a) →
    clientReplies (some a) es = (repliesOf es).map (fun d => (a, d)) := by
  intro es
  induction es with
  | nil => intro _; rfl
  | cons e es ih =>
    intro h
    have ih := ih fun b d hm => h b d (List.mem_cons_of_mem _ hm)
    cases e with
    | fromApp b d => obtain rfl := h b d List.mem_cons_self; exact ih
    | reply d => exact congrArg ((a, d) :: ·) ih

/-- what the rule does not give (stated, not claimed): with two applications on one association a reply goes to whoever
sent last -/
example : UdpRelay.clientReplies none [.fromApp 1 [7], .fromApp 2 [8], .reply [9]] = [(2, [9])] := by decide

end AnyTLS.C15
