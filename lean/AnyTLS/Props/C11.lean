/-
C11 — concurrent writers cannot scramble the wire.
Model: `Model/Conc.lean` (M13): any number of tasks, one atomic action per access to shared
state, tokio's FIFO lock hand-off; `Step` lets ANY task take its next action at any moment, so
the theorems cover every interleaving and every pre-emption point, not only the hook points
the harness can park a task at.  Invariants and their preservation: `Lemmas/Conc.lean`.
-/
import AnyTLS.Lemmas.Conc

namespace AnyTLS.C11
open AnyTLS

/-- the state of a session whose tasks have not started: whatever is on the wire and in the
initial buffer (a client: the Settings frame) is the beginning of the logical frame sequence -/
def initCS (s : Sess) : CS := { s := s, log := [{ owner := none, bytes := flatten s.wire ++ s.buffer }] }

theorem inv_init (s : Sess) : Inv (initCS s) where
  lock := ⟨fun _ => ⟨nofun, nofun⟩, fun _ => ⟨nofun, nofun⟩, .nil, fun _ => rfl, fun _ => ⟨nofun, nofun⟩, fun _ => ⟨nofun, nofun⟩,
    .nil, fun _ => rfl⟩
  wire := {
    excl := fun t h => by cases h
    eq := fun _ => by simp [initCS, CS.inflight, enc]
    fail := fun h => by cases h
    pre := by simp [initCS, enc] }
  order := {
    pre := fun t => by simp [accepted, initCS]
    eq := fun _ t => by simp [accepted, initCS, CS.task, PC.pending]
    ac := fun t h => by cases h }
  ids := {
    unused := fun u _ => ⟨rfl, rfl⟩
    owners := fun x hx t ht => by
      simp only [initCS, List.mem_singleton] at hx; rw [hx] at ht; cases ht }
  syn := fun t sid h => by cases h

theorem inv_reach (s : Sess) {cs : CS} (r : Reach (initCS s) cs) : Inv cs := by
  induction r with
  | refl => exact inv_init s
  | step _ st ih => exact ih.step st

/-- every entry of the logical frame sequence is whole: the initial bytes, an entire encoded
frame handed to `write_frame` by its owner, or padding made of entire Waste frames -/
def WholeUnits (s : Sess) (cs : CS) : Prop :=
  ∃ more, cs.log = (initCS s).log ++ more ∧
    ∀ x ∈ more, (∃ t, x.owner = some t ∧ x.bytes ∈ (cs.task t).submitted) ∨
                (x.owner = none ∧ ∃ pads : List Nat, x.bytes = flatten (pads.map wasteFrame))

/-- T11.1 `contiguous`: in every reachable state, under every interleaving of any number of
tasks, the bytes on the transport are a prefix of the concatenation of WHOLE units in the order
in which `write_frame` accepted them — no frame is ever torn or interleaved with another. -/
theorem contiguous (s : Sess) {cs : CS} (r : Reach (initCS s) cs) : flatten cs.s.wire <+: enc cs.log :=
  (inv_reach s r).wire.pre

/-- T11.2 `program_order`: the frames of one task enter the sequence in the order in which the
task submitted them, without gaps: they are a prefix of its submission list. -/
theorem program_order (s : Sess) {cs : CS} (r : Reach (initCS s) cs) (t : Nat) :
    accepted cs t <+: (cs.task t).submitted :=
  (inv_reach s r).order.pre t

/-- while the session is open nothing a task submitted is skipped: submitted = accepted ++ still pending -/
theorem nothing_skipped (s : Sess) {cs : CS} (r : Reach (initCS s) cs) (hc : cs.s.closed = false) (t : Nat) :
    (cs.task t).submitted = accepted cs t ++ (cs.task t).pc.pending :=
  (inv_reach s r).order.eq hc t

theorem log_grows (s : Sess) {cs : CS} (r : Reach (initCS s) cs) : ∃ more, cs.log = (initCS s).log ++ more ∧
    ∀ x ∈ more, (∃ t, x.owner = some t) ∨ (x.owner = none ∧ ∃ pads : List Nat, x.bytes = flatten (pads.map wasteFrame)) := by
  induction r with
  | refl => exact ⟨[], by simp, nofun⟩
  | step _ st ih =>
    obtain ⟨more, hm, hgood⟩ := ih
    cases st with
    | act _ t hmi =>
      obtain ⟨add, hl, hadd⟩ := micro_log hmi
      refine ⟨more ++ add, by rw [hl, hm, List.append_assoc], fun x hx => ?_⟩
      rcases List.mem_append.mp hx with hx | hx
      · exact hgood x hx
      · exact (hadd x hx).imp_left fun e => ⟨t, e⟩
    | spawn k _ _ _ => exact ⟨more, hm, hgood⟩
    | env b => exact ⟨more, hm, hgood⟩
    | recv f _ => exact ⟨more, hm, hgood⟩

/-- T11.3 `settings_first`: whatever was in the session's initial buffer (for a client: exactly
the Settings frame, `Sess.startClient`) precedes everything any task writes: the wire is a
prefix of `initial ++ …`. -/
theorem settings_first (s : Sess) {cs : CS} (r : Reach (initCS s) cs) :
    ∃ rest, flatten cs.s.wire <+: (flatten s.wire ++ s.buffer) ++ rest := by
  obtain ⟨more, hm, _⟩ := log_grows s r
  refine ⟨enc more, ?_⟩
  have := contiguous s r
  rw [hm, enc_append] at this
  simpa [initCS, enc] using this

/-- every unit of the sequence is whole (see `WholeUnits`) -/
theorem whole_units (s : Sess) {cs : CS} (r : Reach (initCS s) cs) : WholeUnits s cs := by
  have hinv := inv_reach s r
  obtain ⟨more, hm, hgood⟩ := log_grows s r
  refine ⟨more, hm, fun x hx => ?_⟩
  rcases hgood x hx with ⟨t, e⟩ | e
  · left
    refine ⟨t, e, ?_⟩
    apply (hinv.order.pre t).subset
    unfold accepted
    rw [List.mem_map]
    refine ⟨x, ?_, rfl⟩
    rw [List.mem_filter]
    refine ⟨by rw [hm]; exact List.mem_append_right _ hx, by rw [e]; simp⟩
  · exact Or.inr e

theorem dataFrames_shape (sid : Nat) : ∀ (fuel : Nat) (data : Bytes), ∀ f ∈ dataFrames fuel sid data,
    ∃ chunk, f = { cmd := .push, sid := sid, data := chunk } := by
  intro fuel data
  fun_induction dataFrames fuel sid data with
  | case1 => nofun
  | case2 _ _ _ _ ih => exact fun f h => (List.mem_cons.mp h).elim (fun e => ⟨_, e⟩) (ih f)
  | case3 => exact fun f h => ⟨_, List.mem_singleton.mp h⟩

/-- T11.4 `syn_before_own_data`: when a task writes data on the stream it opened itself (what
`create_proxy_stream` and every forwarder do after their own `open_stream` returned), the
stream's SYN is already in its submission list, before the data frames the operation appends.
With `program_order` and `contiguous`: on the wire the SYN precedes every such data frame,
under every interleaving with any number of other writers. -/
theorem syn_before_own_data (s : Sess) {cs cs' : CS} (r : Reach (initCS s) cs) (t : Nat)
    (hpc : (cs.task t).pc = .idle) (payload : Bytes) (rest : List COp)
    (hop : (cs.task t).ops = .dataOwn payload :: rest) (sid : Nat)
    (hsid : ((cs.task t).sids.filterMap id).getLast? = some sid) (hm : micro cs t = some cs') :
    ∃ new, (cs'.task t).submitted = (cs.task t).submitted ++ new ∧ synBytes sid ∈ (cs.task t).submitted ∧
      ∀ b ∈ new, ∃ chunk, b = encodeD { cmd := .push, sid := sid, data := chunk } := by
  have hsyn : synBytes sid ∈ (cs.task t).submitted := by
    apply (inv_reach s r).syn t sid
    have := List.mem_of_getLast? hsid
    rw [List.mem_filterMap] at this
    obtain ⟨a, ha, e⟩ := this
    simp only [id] at e
    rw [e] at ha; exact ha
  unfold micro at hm
  simp only [hpc, hop, hsid, Option.getD_some] at hm
  cases hm
  refine ⟨_, by rw [submit_self]; rfl, hsyn, ?_⟩
  intro b hb
  rw [List.mem_map] at hb
  obtain ⟨f, hf, e⟩ := hb
  obtain ⟨chunk, hc⟩ := dataFrames_shape sid _ _ f hf
  exact ⟨chunk, by rw [← e, hc]⟩

/-- `registered_before_syn` (used by C10): the step that hands a stream's SYN to
`write_frame` is the step that registers the stream in BOTH tables — so at every moment at which
the SYN can be on the wire (or even in the buffer) the receive loop already knows the stream:
a SYNACK, data or FIN that arrives while the opener is still inside the SYN write finds it
(`Step.recv` may happen at any point; what it then does to the stream is C01 / C02 / C10). -/
theorem registered_before_syn (cs cs' : CS) (t : Nat) (hpc : (cs.task t).pc = .openChecked) (hm : micro cs t = some cs') :
    let sid := cs.s.nextSid
    let h := cs.s.objs.length
    tblGet cs'.s.streams sid = some h ∧ tblGet cs'.s.recv sid = some h ∧ cs'.s.objs[h]? = some { sid := sid } ∧
    (cs'.task t).submitted = (cs.task t).submitted ++ [synBytes sid] ∧ cs'.log = cs.log := by
  unfold micro at hm
  simp only [hpc] at hm
  cases hm
  refine ⟨?_, ?_, ?_, ?_, rfl⟩
  · show tblGet (tblInsert cs.s.streams cs.s.nextSid cs.s.objs.length) cs.s.nextSid = _
    rw [tblGet_insert]; simp
  · show tblGet (tblInsert cs.s.recv cs.s.nextSid cs.s.objs.length) cs.s.nextSid = _
    rw [tblGet_insert]; simp
  · show (cs.s.objs ++ [({ sid := cs.s.nextSid } : Obj)])[cs.s.objs.length]? = _
    simp
  · rw [submit_self]
    show ((CS.setTask _ t _).task t).submitted ++ _ = _
    rw [setTask_task, if_pos rfl]; rfl

/-- T11.5 `nothing_dropped`: whenever no write is in progress and no transport write has failed,
everything accepted is on the wire or still in the initial buffer — nothing was lost. -/
theorem nothing_dropped (s : Sess) {cs : CS} (r : Reach (initCS s) cs) (hf : cs.failed = false)
    (hb : cs.bufHolder = none) : flatten cs.s.wire ++ cs.s.buffer = enc cs.log := by
  have := (inv_reach s r).wire.eq hf
  unfold CS.inflight at this
  rw [hb] at this
  simpa using this

/-- after a failed transport write the session is closed (and stays so): the torn write is the last -/
theorem failure_closes (s : Sess) {cs : CS} (r : Reach (initCS s) cs) (hf : cs.failed = true) : cs.s.closed = true :=
  ((inv_reach s r).wire.fail hf).1

/-- the buffer lock is exclusive: at most one task is between `wf:locked` and the release -/
theorem one_writer (s : Sess) {cs : CS} (r : Reach (initCS s) cs) (t u : Nat)
    (ht : (cs.task t).pc.holdsBuf = true) (hu : (cs.task u).pc.holdsBuf = true) : t = u := by
  have e := (inv_reach s r).wire.excl
  have := (e t ht).symm.trans (e u hu)
  cases this; rfl

/-! ### the scheduler of the correspondence check only composes micro actions -/

theorem reach_trans {a b c : CS} (h1 : Reach a b) (h2 : Reach b c) : Reach a c := by
  induction h2 with
  | refl => exact h1
  | step _ st ih => exact .step ih st

theorem runFree_reach : ∀ (fuel : Nat) (cs : CS) (t : Nat), Reach cs (runFree fuel cs t) := by
  intro fuel cs t
  fun_induction runFree fuel cs t with
  | case2 _ cs _ _ cs' hm ih => exact reach_trans (.step .refl (.act cs cs' _ hm)) ih
  | _ => exact .refl

theorem settle_reach : ∀ (fuel : Nat) (cs : CS), Reach cs (settle fuel cs) := by
  intro fuel cs
  fun_induction settle fuel cs with
  | case2 _ cs t _ ih => exact reach_trans (runFree_reach 64 cs t) ih
  | _ => exact .refl

/-- every state the driver's `stepTask` produces is reachable in the sense of the theorems above -/
theorem stepTask_reach (cs cs' : CS) (t : Nat) (h : stepTask cs t = some cs') : Reach cs cs' := by
  revert h
  fun_cases stepTask cs t <;> intro h <;> cases h
  exact reach_trans (.step .refl (.act cs _ t ‹_›)) (settle_reach 64 _)

/-- non-vacuity: a fresh client session (Settings buffered), two tasks that open a stream, stop
buffering and write; a schedule in which the second task overtakes the first at every lock — the
wire then starts with Settings, each SYN precedes its own data, and nothing is lost. -/
def demoSess : Sess :=
  ((Sess.initClient ((Scheme.parse (asciiBytes "stop=0")).getD default) "x" 0).startClient).1

def demoCS : CS :=
  ((initCS demoSess).spawn { ops := [.open, .nobuf, .dataOwn [65, 65]], allOps := [] }).spawn
    { ops := [.open, .dataOwn [66]], allOps := [] }

/-- the schedule "task 1 whenever it can run, else task 0" -/
def demoGo : Nat → CS → CS
  | 0, cs => cs
  | f + 1, cs =>
    match [1, 0].find? (fun t => (stepTask cs t).isSome) with
    | some t => demoGo f ((stepTask cs t).getD cs)
    | none => cs

example : (fun cs => ((decodeAll (flatten cs.s.wire)).1.map (fun f => (f.cmd, f.sid, f.data.length)), cs.s.buffer.length,
      (cs.task 0).results, (cs.task 1).results)) (demoGo 100 demoCS) =
    ([(.settings, 0, 40), (.syn, 1, 0), (.push, 1, 1), (.syn, 2, 0), (.push, 2, 2)], 0, [.ok, .ok, .ok], [.ok, .ok]) := by
  decide +kernel

end AnyTLS.C11
