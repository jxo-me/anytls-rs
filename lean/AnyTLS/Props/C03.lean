/-
C03 — frame encoding is a faithful, chunking-independent bijection.
Model: `AnyTLS/Model/Frame.lean` (+ generated `Gen.lean`).  The definitions the statements need (`lenField`, `WF`,
`encodeAll`) are here too and are used by C01 and C04.
-/
import AnyTLS.Lemmas.Frame

namespace AnyTLS.C03
open AnyTLS AnyTLS.Gen

/-- Gen obligation: the header is 7 bytes (the model's pattern match relies on it). -/
theorem gen_headerSize : Gen.headerSize = 7 := by decide

/-- T3.2a: `Command::from(cmd as u8) = cmd` for every command. -/
theorem ofByte_toByte (c : Cmd) : Cmd.ofByte c.toByte = c := by cases c <;> rfl

/-- T3.2b: every command discriminant is a byte. -/
theorem toByte_lt (c : Cmd) : c.toByte < 256 := by cases c <;> decide

/-- T3.2c: every byte that is not the discriminant of a command decodes to the inert
padding command. -/
theorem unknown_is_waste :
    ∀ b : Fin 256, (∀ c ∈ Cmd.all, c.toByte ≠ b.val) → Cmd.ofByte b.val = Cmd.waste :=
  fun b h => (toByte_ofByte_or_waste b.val).resolve_right (h _ (Cmd.mem_all _))

/-- T3.2d: the command discriminants are pairwise distinct. -/
theorem toByte_injective (c d : Cmd) (h : c.toByte = d.toByte) : c = d := by
  have := congrArg Cmd.ofByte h
  simpa [ofByte_toByte] using this

/-- T3.1 `decode_encode`: every frame with a payload that fits the length field encodes, and
decoding the encoding (followed by anything) yields the same command, stream id and
payload and leaves exactly what followed. -/
theorem decode_encode (f : Frame) (rest : Bytes)
    (hs : f.sid < 4294967296) (hl : f.data.length ≤ 65535) :
    ∃ bs, encode f = some bs ∧ decodeStep (bs ++ rest) = some (f, rest) :=
  ⟨_, if_neg (Nat.not_lt.mpr hl), by
    rw [decodeStep_header f.cmd.toByte f.sid f.data rest (toByte_lt _) hs (by omega), ofByte_toByte]⟩

/-- the length field of an encoded frame (bytes 5 and 6) -/
def lenField (bs : Bytes) : Nat := rd16 (bs.getD 5 0) (bs.getD 6 0)

/-- T3.6 `encode_header_exact`: the encoder never emits a header whose length field differs
from the payload that follows it, and it refuses (emitting nothing) exactly the payloads that
do not fit. -/
theorem encode_header_exact (f : Frame) :
    (∀ bs, encode f = some bs →
      bs.length = 7 + f.data.length ∧ bs.drop 7 = f.data ∧ lenField bs = f.data.length) ∧
    (encode f = none ↔ f.data.length > 65535) := by
  have := header_append f.cmd.toByte f.sid f.data.length f.data
  fun_cases encode f
  · exact ⟨nofun, by simp [*]⟩
  · rw [Nat.mod_eq_of_lt (by omega)] at this
    exact ⟨fun bs h => Option.some.inj h ▸ this, by simp [*]⟩

/-- T3.6 refutation for the *pinned* encoder (`put_u16(len as u16)` then all the bytes):
for every 65 536-byte payload the header announces 0 bytes and 65 536 bytes follow. -/
theorem encodeTrunc_refuted (f : Frame) (h : f.data.length = 65536) :
    (encodeTrunc f).drop 7 = f.data ∧ lenField (encodeTrunc f) = 0 := by
  obtain ⟨_, h2, h3⟩ := header_append f.cmd.toByte f.sid (toU16 f.data.length) f.data
  refine ⟨h2, h3.trans ?_⟩
  rw [h, toU16, Nat.mod_self, Nat.zero_mod]

/-- T3.3a `decodeStep_exact`: a successful decode consumes exactly header + payload. -/
theorem decodeStep_exact (b : Bytes) (f : Frame) (r : Bytes) (h : decodeStep b = some (f, r)) :
    b.length = 7 + f.data.length + r.length ∧
    f.data = (b.drop 7).take f.data.length ∧ r = b.drop (7 + f.data.length) :=
  ⟨decodeStep_some_length h, decodeStep_some_eq h⟩

/-- T3.3b: nothing of an incomplete frame is consumed: the decoder says "need more" exactly
when the header or the announced payload is incomplete (and then the buffer is untouched,
`feed` returning it unchanged — see `incomplete_kept`). -/
theorem decodeStep_none_iff (b : Bytes) :
    decodeStep b = none ↔
      (b.length < 7 ∨ ∃ c s0 s1 s2 s3 l0 l1 rest,
          b = c :: s0 :: s1 :: s2 :: s3 :: l0 :: l1 :: rest ∧ rest.length < rd16 l0 l1) := by
  rcases b with _ | ⟨c, _ | ⟨s0, _ | ⟨s1, _ | ⟨s2, _ | ⟨s3, _ | ⟨l0, _ | ⟨l1, rest⟩⟩⟩⟩⟩⟩⟩
  case cons.cons.cons.cons.cons.cons.cons =>
    simp only [decodeStep]
    constructor
    · intro h
      split at h
      · exact .inr ⟨_, _, _, _, _, _, _, _, rfl, ‹_›⟩
      · cases h
    · rintro (h | ⟨_, _, _, _, _, _, _, _, e, hl⟩)
      · simp only [List.length_cons] at h; omega
      · cases e; rw [if_pos hl]
  all_goals exact ⟨fun _ => .inl (by simp), fun _ => rfl⟩

theorem incomplete_kept (b : Bytes) (h : decodeStep b = none) : decodeAll b = ([], b) :=
  decodeAll_of_none h

/-- T3.4 `feed_chunking`: feeding a decoder any byte stream in any fragmentation yields the
same frame sequence and the same residue as feeding it whole. -/
theorem feed_chunking (chunks : List Bytes) :
    feedAll [] chunks = decodeAll (flatten chunks) :=
  feedAll_eq chunks [] rfl

/-- T3.4': two fragmentations of the same byte string are indistinguishable. -/
theorem feed_chunking_indep (c1 c2 : List Bytes) (h : flatten c1 = flatten c2) :
    feedAll [] c1 = feedAll [] c2 := by
  rw [feed_chunking, feed_chunking, h]

/-- T3.5 `decodeAll_total`: every byte string is decodable without failure; the frames found
account for exactly header + payload bytes each, the residue is an incomplete frame, and at
most |b|/7 frames are produced (the receive loop makes progress and terminates). -/
theorem decodeAll_total (b : Bytes) :
    sumSizes (decodeAll b).1 + (decodeAll b).2.length = b.length ∧
    decodeStep (decodeAll b).2 = none ∧
    7 * (decodeAll b).1.length ≤ b.length :=
  ⟨decodeAll_account b, decodeAll_residue b,
    Nat.le_trans (sumSizes_ge _) (Nat.le_of_add_right_le (Nat.le_of_eq (decodeAll_account b)))⟩

/-- well-formed frame: what the encoder accepts and a `u32` stream id -/
def WF (f : Frame) : Prop := f.sid < 4294967296 ∧ f.data.length ≤ 65535

def encodeAll : List Frame → Option Bytes
  | [] => some []
  | f :: fs => match encode f, encodeAll fs with
    | some a, some b => some (a ++ b)
    | _, _ => none

/-- T3.7: any concatenation of encoded frames (followed by an incomplete tail) decodes to
exactly those frames, leaving the tail. -/
theorem decodeAll_encodeAll (fs : List Frame) (hwf : ∀ f ∈ fs, WF f)
    (tail : Bytes) (ht : decodeStep tail = none) :
    ∃ bs, encodeAll fs = some bs ∧ decodeAll (bs ++ tail) = (fs, tail) := by
  induction fs with
  | nil => exact ⟨[], rfl, by simpa using decodeAll_of_none ht⟩
  | cons f fs ih =>
    obtain ⟨⟨hs, hl⟩, hwf⟩ := List.forall_mem_cons.mp hwf
    obtain ⟨bs, hbs, hdec⟩ := ih hwf
    obtain ⟨a, ha, hda⟩ := decode_encode f (bs ++ tail) hs hl
    refine ⟨a ++ bs, by simp [encodeAll, ha, hbs], ?_⟩
    rw [List.append_assoc, decodeAll_of_some hda, hdec]

/-- non-vacuity: a concrete two-frame stream, cut inside the second header -/
example :
    feedAll [] [[2, 0, 0, 0, 7, 0, 2, 0xAA, 0xBB, 200, 0, 0], [0, 1, 0, 1], [9, 3]]
      = ([{ cmd := .push, sid := 7, data := [0xAA, 0xBB] }, { cmd := .waste, sid := 1, data := [9] }],
         [3]) := by decide

example : WF { cmd := .push, sid := 7, data := [1, 2, 3] } := by simp [WF]

end AnyTLS.C03
