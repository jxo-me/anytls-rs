/-
C19 — a padding scheme pushed by the server takes effect on the client.
Model: `Model/Session.lean` (UpdatePaddingScheme and Settings arms), `Model/Proc.lean`
(process-wide default, session creation).  `Md5.hex` is used as an opaque function.
-/
import AnyTLS.Model.Proc
import AnyTLS.Props.C05

namespace AnyTLS.C19
open AnyTLS AnyTLS.Gen

def pushFrame (raw : Bytes) : Frame := { cmd := .updatePaddingScheme, sid := 0, data := raw }

/-- T19.1a: a parseable push makes the session adopt exactly the pushed scheme (and announce
its digest from now on), stores it as the process-wide default, and disturbs nothing else:
the session stays open, no stream, buffer, counter or wire byte changes. -/
theorem push_adopts (s : Sess) (raw : Bytes) (sch : Scheme) (hc : s.isClient = true) (hne : raw ≠ [])
    (hp : Scheme.parse raw = some sch) :
    let r := s.handleFrame (pushFrame raw)
    r.2 = .continue ∧ r.1.scheme = sch ∧ r.1.schemeMd5 = Md5.hex raw ∧ r.1.pushed = s.pushed ++ [sch] ∧
    r.1.closed = s.closed ∧ r.1.streams = s.streams ∧ r.1.recv = s.recv ∧ r.1.objs = s.objs ∧
    r.1.wire = s.wire ∧ r.1.pktCounter = s.pktCounter ∧ r.1.buffer = s.buffer ∧ r.1.sendPadding = s.sendPadding := by
  have he : raw.isEmpty = false := List.isEmpty_eq_false_iff.mpr hne
  simp [Sess.handleFrame, pushFrame, hc, he, hp]

/-- T19.1b `push_switches_session`: every packet the session sends after the push is shaped by
the *pushed* scheme: its write lengths are accepted by the statement's acceptor for the
pushed scheme's line (C05's theorems instantiated at the adopted scheme). -/
theorem push_switches_session (s : Sess) (raw : Bytes) (sch : Scheme) (hc : s.isClient = true) (hne : raw ≠ [])
    (hp : Scheme.parse raw = some sch) (hpad : s.sendPadding = true) (hb : s.wrBudget = none) (hs : s.shut = false)
    (payload : Bytes) :
    let s' := (s.handleFrame (pushFrame raw)).1
    let k := s'.pktCounter + Gen.pktFetchOffset
    ∃ rs, (s'.writeWithPadding payload).1.wire = s'.wire ++ writePacket true sch k rs payload ∧
      (k < sch.stop → sch.specs k ≠ [] →
        Allowed (sch.specs k) payload.length ((writePacket true sch k rs payload).map List.length)) ∧
      (k ≥ sch.stop → writePacket true sch k rs payload = [payload]) := by
  have e : s.handleFrame (pushFrame raw)
      = ({ s with scheme := sch, schemeMd5 := Md5.hex raw, pushed := s.pushed ++ [sch] }, .continue) := by
    simp [Sess.handleFrame, pushFrame, hc, List.isEmpty_eq_false_iff.mpr hne, hp]
  rw [e]
  obtain ⟨rs, hw, _, _⟩ := C05.packet_index { s with scheme := sch, schemeMd5 := Md5.hex raw, pushed := s.pushed ++ [sch] }
    payload hpad hb hs
  exact ⟨rs, hw, C05.shape_allowed sch _ rs payload, C05.no_padding_from_stop sch _ rs payload⟩

/-- T19.4 `bad_push_ignored`: a pushed scheme the client cannot parse — and an empty payload,
and any push received by a server — changes nothing at all; the session carries on. -/
theorem bad_push_ignored (s : Sess) (raw : Bytes) (h : Scheme.parse raw = none ∨ raw = [] ∨ s.isClient = false) :
    s.handleFrame (pushFrame raw) = (s, .continue) := by
  rcases h with h | h | h <;> simp [Sess.handleFrame, pushFrame, h]

/-- T19.2a: the process-wide default after a parseable push is the pushed scheme. -/
theorem push_sets_default (p : Proc) (i : Nat) (s : Sess) (raw : Bytes) (sch : Scheme)
    (hi : p.sessions[i]? = some s) (hc : s.isClient = true) (hne : raw ≠ []) (hp : Scheme.parse raw = some sch) :
    (p.frame i (pushFrame raw)).global = sch := by
  obtain ⟨_, _, _, h4, _⟩ := push_adopts s raw sch hc hne hp
  simp only [Proc.frame, hi, absorbScheme]
  rw [h4]
  simp

/-- T19.2b `new_session_uses_default` (the pushed scheme sticks): every session opened afterwards is given the process-wide default: it
uses that scheme and announces its digest in its Settings frame. -/
theorem new_session_uses_default (p : Proc) (seed : UInt64) :
    ∃ s, (p.newSession seed).sessions = p.sessions ++ [s] ∧ s.scheme = p.global ∧
      s.schemeMd5 = Md5.hex p.global.raw ∧ (p.newSession seed).global = p.global := by
  refine ⟨_, rfl, ?_, ?_, rfl⟩ <;> (rw [Sess.startClient, writeFrame_wrote]; rfl)

/-- T19.2c: …so that it is not pushed again — a server whose own digest equals the announced one
sends no UpdatePaddingScheme (it pushes exactly when they differ). -/
theorem server_pushes_iff_differs (s : Sess) (m : List (Bytes × Bytes)) (cm : Bytes)
    (hm : mapGet m (asciiBytes "padding-md5") = some cm) :
    (cm = asciiBytes s.schemeMd5 → s.maybePushScheme m = (s, .ok)) ∧
    (cm ≠ asciiBytes s.schemeMd5 →
      s.maybePushScheme m = s.writeFrame { cmd := .updatePaddingScheme, sid := 0, data := s.scheme.raw }) := by
  unfold Sess.maybePushScheme
  rw [hm]
  constructor
  · intro h; simp [h]
  · intro h; simp [h]

/-- process histories: new sessions, and frames received by sessions -/
inductive POp where
  | newSession (seed : UInt64)
  | frame (i : Nat) (f : Frame)

def runProc : Proc → List POp → Proc
  | p, [] => p
  | p, .newSession seed :: ops => runProc (p.newSession seed) ops
  | p, .frame i f :: ops => runProc (p.frame i f) ops

/-- T19.3: *every* push counts — for any history whatsoever before it (any number of earlier
pushes, sessions, frames; whether or not the built-in default was ever used), a parseable push
received by a client session is the process default right after it, and a session opened at
any later moment before the next push uses and announces it. -/
theorem nth_push_takes_effect (p0 : Proc) (hist : List POp) (i : Nat) (s : Sess) (raw : Bytes) (sch : Scheme)
    (seed : UInt64)
    (hi : (runProc p0 hist).sessions[i]? = some s) (hc : s.isClient = true) (hne : raw ≠ [])
    (hp : Scheme.parse raw = some sch) :
    let p := ((runProc p0 hist).frame i (pushFrame raw))
    p.global = sch ∧ ∃ t, (p.newSession seed).sessions = p.sessions ++ [t] ∧ t.scheme = sch ∧
      t.schemeMd5 = Md5.hex sch.raw := by
  have hg := push_sets_default (runProc p0 hist) i s raw sch hi hc hne hp
  refine ⟨hg, ?_⟩
  obtain ⟨t, h1, h2, h3, _⟩ := new_session_uses_default ((runProc p0 hist).frame i (pushFrame raw)) seed
  exact ⟨t, h1, by rw [h2, hg], by rw [h3, hg]⟩

/-- refutation for the *pinned* tree: the process-wide default was a write-once cell -/
def pinnedUpdate (cell : Option Scheme) (sch : Scheme) : Option Scheme × Bool :=
  match cell with
  | some old => (some old, false)     -- `OnceLock::set` fails: "failed to update default factory"
  | none => (some sch, true)

theorem pinned_second_push_lost (a b : Scheme) (h : a ≠ b) :
    (pinnedUpdate (pinnedUpdate none a).1 b).1 ≠ some b := by
  simp [pinnedUpdate]; exact h

/-- non-vacuity: a small parseable scheme -/
example : (Scheme.parse [115, 116, 111, 112, 61, 50]).isSome = true := by decide +kernel

end AnyTLS.C19
