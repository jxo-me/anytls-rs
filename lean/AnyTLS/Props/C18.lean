/-
C18 — certificate hot-reload is all-or-nothing.
Model: `Model/Cert.lean` (state machine over an abstract validator; the validation itself is the
real rustls, exercised by the cert group with disk states whose validity is known by construction).
-/
import AnyTLS.Model.Cert

namespace AnyTLS.C18
open AnyTLS

/-- T18.1 `failed_reload_noop`: a reload that fails for any reason (a file missing, truncated,
garbled or empty, key not matching the certificate, expired certificate with the expiry check
on) returns an error and leaves the active pair, the reported information, the counter and
every accepted connection exactly as they were. -/
theorem failed_reload_noop (st : CertSt) (expired : Nat → Bool) (cert key : FileRead)
    (h : (st.reload expired cert key).2 = false) : (st.reload expired cert key).1 = st := by
  revert h
  fun_cases CertSt.reload st expired cert key
  · nofun
  · exact fun _ => rfl
  · exact fun _ => rfl

theorem reload_ok_iff (st : CertSt) (expired : Nat → Bool) (cert key : FileRead) :
    (st.reload expired cert key).2 = true ↔
      ∃ c, cert = some c ∧ key = some c ∧ ¬ (st.checkExpiry = true ∧ expired c = true) := by
  have acc : ∀ c k, (c == k && !(st.checkExpiry && expired c)) = true ↔
      c = k ∧ ¬ (st.checkExpiry = true ∧ expired c = true) := fun c k => by
    rw [Bool.and_eq_true, beq_iff_eq, Bool.not_eq_true', ← Bool.not_eq_true, Bool.and_eq_true]
  fun_cases CertSt.reload st expired cert key
  next c k h => obtain ⟨rfl, he⟩ := (acc c k).mp h; exact ⟨fun _ => ⟨c, rfl, rfl, he⟩, fun _ => rfl⟩
  next c k h => exact ⟨nofun, fun ⟨_, hc, hk, he⟩ => by cases hc; cases hk; exact (h ((acc c c).mpr ⟨rfl, he⟩)).elim⟩
  next h => exact ⟨nofun, fun ⟨c, hc, hk, _⟩ => (h c c hc hk).elim⟩

/-- T18.2 `ok_reload_swaps`: a successful reload makes exactly the pair validated in this call
active, reports exactly that pair, and counts once; every later connection is served with it
until the next successful reload. -/
theorem ok_reload_swaps (st : CertSt) (expired : Nat → Bool) (cert key : FileRead)
    (h : (st.reload expired cert key).2 = true) :
    ∃ c, cert = some c ∧ key = some c ∧
      (st.reload expired cert key).1.active = c ∧ (st.reload expired cert key).1.info = c ∧
      (st.reload expired cert key).1.count = st.count + 1 ∧
      ((st.reload expired cert key).1.accept).accepted.getLast? = some c := by
  revert h
  fun_cases CertSt.reload st expired cert key
  next c k h =>
    cases beq_iff_eq.mp ((Bool.and_eq_true _ _).mp h).1
    exact fun _ => ⟨c, rfl, rfl, rfl, rfl, rfl, List.getLast?_concat ..⟩
  · nofun
  · nofun

/-- histories: reloads (with the two reads they performed) and new connections -/
inductive Ev where
  | reload (cert key : FileRead)
  | accept

def step (expired : Nat → Bool) (st : CertSt) : Ev → CertSt
  | .reload c k => (st.reload expired c k).1
  | .accept => st.accept

/-- pairs validated *as a pair* by some reload of the history -/
def validated : List Ev → List Nat
  | [] => []
  | .reload (some c) (some k) :: evs => if c == k then c :: validated evs else validated evs
  | _ :: evs => validated evs

/-- T18.3 `active_always_validated` / T18.5 `info_matches_active`: at every moment of every
history the active pair is the initial pair or a pair that some reload read completely from
both files *as a pair* (never a certificate from one pair and a key from another), and the
reported information describes exactly the active pair. -/
theorem active_always_validated (expired : Nat → Bool) (evs : List Ev) : ∀ (st : CertSt), st.info = st.active →
    let st' := evs.foldl (step expired) st
    (st'.active = st.active ∨ st'.active ∈ validated evs) ∧ st'.info = st'.active := by
  induction evs with
  | nil => exact fun st h => ⟨.inl rfl, h⟩
  | cons e evs ih =>
    intro st h
    have mono : ∀ x, x ∈ validated evs → x ∈ validated (e :: evs) := by
      intro x hx
      rcases e with ⟨_ | c, _ | k⟩ | _ <;> try exact hx
      rw [validated]; split
      · exact List.mem_cons_of_mem _ hx
      · exact hx
    cases e with
    | accept => exact ih st.accept h
    | reload cert key =>
      simp only [List.foldl_cons, step]
      fun_cases CertSt.reload st expired cert key
      next c k hck =>
        obtain ⟨h1, h2⟩ := ih { st with active := c, info := c, count := st.count + 1 } rfl
        refine ⟨.inr ?_, h2⟩
        rw [validated, if_pos ((Bool.and_eq_true _ _).mp hck).1]
        rcases h1 with h1 | h1
        · exact h1 ▸ List.mem_cons_self
        · exact List.mem_cons_of_mem _ h1
      all_goals exact ⟨(ih st h).1.imp_right (mono _), (ih st h).2⟩

/-- T18.4: a connection's snapshot is immutable: whatever happens later — successful or failed
reloads, other connections — connections accepted earlier keep the pair they were given. -/
theorem accepted_undisturbed (expired : Nat → Bool) (evs : List Ev) : ∀ (st : CertSt),
    st.accepted <+: (evs.foldl (step expired) st).accepted := by
  induction evs with
  | nil => exact fun st => List.prefix_refl _
  | cons e evs ih =>
    intro st
    refine List.IsPrefix.trans ?_ (ih _)
    cases e with
    | accept => exact List.prefix_append _ _
    | reload cert key =>
      show _ <+: (st.reload expired cert key).1.accepted
      fun_cases CertSt.reload st expired cert key <;> exact List.prefix_refl _

/-- T18.5 refutation for the *pinned* reload (certificate file read twice): a disk change landing
between the two reads makes the reported information describe a certificate that is not the
active one — replayed on the real code with the sync-point hook (`cert reload_at
reload:after_config`: info=C presented=B) before the repair. -/
theorem pinned_info_not_active :
    let st : CertSt := { active := 0, info := 0 }
    let st' := (st.reloadPinned (fun _ => false) (some 1) (some 1) (some 2)).1
    st'.active = 1 ∧ st'.info = 2 := by decide

/-- non-vacuity: a failed two-file update (certificate replaced alone) followed by the complete one -/
example : ([Ev.reload (some 1) (some 0), .accept, .reload (some 1) (some 1), .accept].foldl (step (fun _ => false))
    { active := 0, info := 0 }).accepted = [0, 1] := by decide

/-! ### the listening server (`Server::listen` on the reloader's acceptor cell)

`Gen.acceptorRead` is regenerated from `server.rs` on every run: where the accept loop reads the cell relative to
`accept()`.  `listen_reads_after_accept` is the obligation the code has to meet; `listener_is_model` then
identifies the real loop's connections with the `accept` of the state machine above, so every theorem of this
file speaks about connections of the listening server, and `first_handshake_after_reload` spells out the clause
"a successful reload is used by every later handshake" for the very next connection. -/

theorem listen_reads_after_accept : Gen.acceptorRead = .afterAccept := by decide

theorem listener_is_model (l : Listener) : (l.conn Gen.acceptorRead).st = l.st.accept := by
  rw [listen_reads_after_accept]; rfl

/-- whatever the loop held before, the first connection after a successful reload is served with the new pair
(and so is every later one, by the same theorem applied to the state it leaves) -/
theorem first_handshake_after_reload (l : Listener) (expired : Nat → Bool) (c : Nat)
    (hok : (l.st.reload expired (some c) (some c)).2 = true) :
    ((l.reload expired (some c) (some c)).conn Gen.acceptorRead).st.accepted.getLast? = some c := by
  rw [listen_reads_after_accept]
  obtain ⟨_, hc, _, _, _, _, hlast⟩ := ok_reload_swaps l.st expired (some c) (some c) hok
  cases hc
  exact hlast

/-- a loop that reads the cell before it waits in `accept()` serves the first connection after a reload with the
previous pair (the excluded shape is refuted, so the obligation is not idle) -/
theorem read_before_accept_serves_stale :
    let l := Listener.start { active := 0, info := 0 }
    ((l.reload (fun _ => false) (some 1) (some 1)).conn .beforeAccept).st.accepted = [0] := by decide

end AnyTLS.C18
