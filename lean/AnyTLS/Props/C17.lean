/-
C17 — the HTTP proxy forwards each request to its authority, unchanged in substance.
Model: `Model/Http.lean` (transcription of src/client/http_proxy.rs); specification of a
well-formed request and of what must happen to it: `Model/HttpSpec.lean`.
-/
import AnyTLS.Lemmas.Http

namespace AnyTLS.C17
open AnyTLS AnyTLS.Http

/-- bytes written to the tunnel by a sequence of effects -/
def payload (evs : List Ev) : Bytes := evs.flatMap (fun e => match e with | .send b => b | _ => [])

def isSend : Ev → Prop
  | .send _ => True
  | _ => False

/-- T17.1 `header_end_first`: the header block ends at the FIRST `\r\n\r\n`; no terminator means no block. -/
theorem header_end_first (b : Bytes) :
    (∀ e, findHeaderEnd b = some e →
      (∃ pre post, b = pre ++ terminator ++ post ∧ e = pre.length + 4) ∧
      (∀ pre post, b = pre ++ terminator ++ post → e ≤ pre.length + 4)) ∧
    (findHeaderEnd b = none → ∀ pre post, b ≠ pre ++ terminator ++ post) :=
  ⟨fun e h => findHeaderEnd_spec b e h, fun h => findHeaderEnd_none b h⟩

/-- T17.2 `header_read_chunk_independent`: however the client's bytes are split into reads, the
header block is accepted exactly when its first terminator ends within the limit; the block is
the same and the bytes after it (read with it or later) are the rest of the stream — in
particular body bytes arriving in the same read as the end of the header never count towards
the limit. -/
theorem header_read_chunk_independent (M : Nat) (chunks : List Bytes) :
    match findHeaderEnd chunks.flatten with
    | some e =>
      if e ≤ M then ∃ rem later, readHeader M [] chunks = .ok (chunks.flatten.take e) rem later
          ∧ rem ++ later.flatten = chunks.flatten.drop e
      else readHeader M [] chunks = .err .tooLarge
    | none => readHeader M [] chunks = .err (if chunks.flatten.length > M then .tooLarge else .closedEarly) :=
  readHeader_whole M chunks [] rfl (Nat.zero_le _)

/-- T17.3 `tunnel_to_named_authority`: for every well-formed request — CONNECT authority,
absolute URI, or origin form with a Host header in any letter case; names, IPv4, bracketed IPv6;
with or without port — the parser derives exactly the host (brackets removed) and port
(explicit, or 443 for CONNECT / https, 80 otherwise) the request names. -/
theorem tunnel_to_named_authority (r : Req) (body : Bytes) (h : r.WF) :
    ∃ q, parseRequest r.render body = .ok q ∧
      q.host = r.auth.host ∧ q.port = r.port ∧ q.isConnect = r.isConnect ∧ q.body = body :=
  ⟨r.parsed body, parseRequest_wellformed r body h, rfl, rfl, rfl, rfl⟩

/-- T17.4 `origin_receives_request`: for every well-formed non-CONNECT request the rewritten
request is: same method, origin-form target, same version, the same header lines in the same
order with only the Host line replaced by its normal form (appended when absent), blank line. -/
theorem origin_receives_request (r : Req) (body : Bytes) (h : r.WF) (hc : r.isConnect = false) :
    ∃ q, parseRequest r.render body = .ok q ∧ buildForward q = r.forwarded :=
  ⟨r.parsed body, parseRequest_wellformed r body h, buildForward_wellformed r body h hc⟩

theorem relayed_sends (rem : Bytes) (later : List Bytes) :
    (∀ ev ∈ relayed rem later, isSend ev) ∧ payload (relayed rem later) = rem ++ later.flatten := by
  have hl : (∀ ev ∈ later.map Ev.send, isSend ev) ∧ payload (later.map Ev.send) = later.flatten :=
    ⟨List.forall_mem_map.mpr fun _ _ => trivial, (List.flatMap_map ..).trans List.flatMap_id⟩
  cases rem with
  | nil => exact hl
  | cons x xs => exact ⟨List.forall_mem_cons.mpr ⟨trivial, hl.1⟩, congrArg ((x :: xs) ++ ·) hl.2⟩

/-- T17.5 `rest_forwarded_once`: whatever the request (well-formed or not) and however it is
split into reads, if the proxy acts at all it first opens the tunnel, then answers 200 (CONNECT)
or sends the rewritten request, and after that writes to the tunnel exactly the bytes that follow
the header block: each once, in order. -/
theorem rest_forwarded_once (M : Nat) (chunks : List Bytes) :
    conn M chunks true = [] ∨
    ∃ e q t, findHeaderEnd chunks.flatten = some e ∧
      conn M chunks true = .openTunnel q.host q.port ::
        (if q.isConnect then .reply reply200 else .send (utf8Encode (buildForward q))) :: t ∧
      (∀ ev ∈ t, isSend ev) ∧ payload t = chunks.flatten.drop e := by
  rcases conn_cases M chunks true with h0 | ⟨hdr, rem, later, h, q, hr, hd, hp⟩
  · exact .inl h0
  right
  have hw := header_read_chunk_independent M chunks
  rw [hr] at hw
  split at hw
  · rename_i e hf
    split at hw
    · obtain ⟨rem', later', hr', hrest⟩ := hw
      cases hr'
      exact ⟨e, q, _, hf, (conn_parsed hr hd hp).1, (relayed_sends rem later).1,
        (relayed_sends rem later).2.trans hrest⟩
    · cases hw
  · cases hw

theorem reply502_ne_200 : reply502 ≠ reply200 := by
  unfold reply502 reply200
  repeat rw [String.toList_ofList]
  decide

/-- T17.6 `no_200_without_tunnel`: when the tunnel cannot be opened the client never sees 200
and nothing is sent; the only effects are the attempt and the 502. -/
theorem no_200_without_tunnel (M : Nat) (chunks : List Bytes) :
    conn M chunks false = [] ∨ ∃ h p, conn M chunks false = [.openTunnel h p, .reply reply502] := by
  rcases conn_cases M chunks false with h0 | ⟨_, _, _, _, q, hr, hd, hp⟩
  · exact .inl h0
  · exact .inr ⟨_, _, (conn_parsed hr hd hp).2⟩

/-- T17.7 `connection_wellformed`: the whole connection, for every well-formed request of any
size up to the limit, every continuation `rest` of the byte stream and every way of splitting
the stream into reads: the tunnel is opened to the named authority; CONNECT is answered 200
(after the tunnel), any other request is sent rewritten as specified; then exactly `rest` is
forwarded.  With the tunnel failing: 502 and nothing else. -/
theorem connection_wellformed (M : Nat) (r : Req) (h : r.WF) (chunks : List Bytes) (rest : Bytes)
    (hs : chunks.flatten = utf8Encode r.render ++ rest) (hlen : (utf8Encode r.render).length ≤ M) :
    (∃ t, conn M chunks true = .openTunnel r.auth.host r.port ::
        (if r.isConnect then .reply reply200 else .send (utf8Encode r.forwarded)) :: t ∧
      (∀ ev ∈ t, isSend ev) ∧ payload t = rest) ∧
    conn M chunks false = [.openTunnel r.auth.host r.port, .reply reply502] := by
  have hw := header_read_chunk_independent M chunks
  rw [hs, header_end_render r h rest] at hw
  simp only [hlen, if_true, List.take_left', List.drop_left'] at hw
  obtain ⟨rem, later, hr, hrest⟩ := hw
  have hc := conn_parsed hr (utf8_roundtrip r.render) (parseRequest_wellformed r rem h)
  refine ⟨⟨_, hc.1.trans ?_, (relayed_sends rem later).1, (relayed_sends rem later).2.trans hrest⟩, hc.2⟩
  cases hic : r.isConnect with
  | true => simp only [Req.parsed, hic, if_true]
  | false => simp only [Req.parsed, hic, Bool.false_eq_true, if_false, ← buildForward_wellformed r rem h hic]

/-- non-vacuity: an origin-form request with an upper-case `HOST:` line naming a bracketed IPv6
literal with a port is well-formed … -/
def exReq : Req :=
  { method := "PUT".toList, form := .origin "/up?x=1".toList,
    auth := { host := "2001:db8::5".toList, v6 := true, port := some 8080 },
    version := "HTTP/1.1".toList, pre := ["Accept: */*".toList],
    hostLine := some "HOST:  [2001:db8::5]:8080 ".toList, post := ["X-Last: café".toList] }

theorem exReq_wf : exReq.WF := by
  -- the characters of the literals by `String.toList_ofList`: `String.toList` itself decodes a
  -- literal's UTF-8 bytes position by position, which is quadratic in its length when evaluated
  unfold exReq
  repeat rw [String.toList_ofList]
  exact ⟨by decide, by decide, by decide, by decide, by unfold Authority.WF; decide, by decide, by decide,
    by decide, by decide, Or.inl ⟨_, rfl⟩, _, rfl, by decide⟩

/-- non-vacuity, continued: fed `exReq` in two reads with a body, the proxy does what T17.7 says -/
example : conn 65536 [utf8Encode exReq.render ++ [1, 2], [3]] true =
    [.openTunnel "2001:db8::5".toList 8080,
     .send (utf8Encode ("PUT /up?x=1 HTTP/1.1\r\nAccept: */*\r\nHost: [2001:db8::5]:8080\r\nX-Last: café\r\n\r\n".toList)),
     .send [1, 2], .send [3]] := by
  unfold exReq
  repeat rw [String.toList_ofList]
  decide +kernel

example : exReq.port = 8080 ∧ exReq.isConnect = false := by decide

def getReq (host : String) (path : String) : Req :=
  { method := "GET".toList, form := .absolute false path.toList,
    auth := { host := host.toList, v6 := false, port := none },
    version := "HTTP/1.1".toList, pre := [], hostLine := none, post := [] }

/-- T17.8 (the property as wanted): EVERY request on a proxy connection reaches the authority it
names — also a second request sent on the same connection after the first was answered. -/
def each_request_to_its_authority : Prop :=
  ∀ (r1 r2 : Req), r1.WF → r2.WF → r1.isConnect = false →
    Ev.openTunnel r2.auth.host r2.port ∈ conn 65536 [utf8Encode r1.render, utf8Encode r2.render] true

/-- T17.8 is false of the current code: the header block is read once per connection; after
the first request the connection is a raw byte relay (T17.5), so a second request — which HTTP/1.1
clients do send on a kept-alive proxy connection — is forwarded verbatim, in absolute form, to
the FIRST request's origin.  Replayed end to end (`http keepalive`); recorded as a known finding
(a repair needs HTTP message framing, not a small patch). -/
theorem each_request_to_its_authority_refuted : ¬ each_request_to_its_authority := by
  intro h
  have wf (host : String) (hh : host = "a.example" ∨ host = "b.example") : (getReq host "/x").WF := by
    rcases hh with rfl | rfl
    all_goals
      unfold getReq
      repeat rw [String.toList_ofList]
      exact ⟨by decide, by decide, by decide, by decide, by unfold Authority.WF; decide, by decide, by decide,
        by decide, by decide, Or.inr ⟨_, Or.inl rfl⟩⟩
  have := h (getReq "a.example" "/x") (getReq "b.example" "/x") (wf _ (Or.inl rfl)) (wf _ (Or.inr rfl)) rfl
  revert this
  unfold getReq
  repeat rw [String.toList_ofList]
  decide +kernel

end AnyTLS.C17
