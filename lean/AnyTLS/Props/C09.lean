/-
C09 — a dying session releases everyone waiting on it, promptly.
Model: `Model/Conc.lean` (M13), the same interleaving semantics as C11: any number of tasks
writing, opening and closing, the receive loop's reaction to EOF / a read error / an Alert /
the liveness monitor giving up as one more task that calls `close()`, transport write failures
at any piece of any write.  Invariants: `Lemmas/Conc.lean`.
-/
import AnyTLS.Props.C11
import AnyTLS.Lemmas.Session
import AnyTLS.Props.C02

namespace AnyTLS.C09
open AnyTLS AnyTLS.C11

/-! ### the session state `close()` leaves behind -/

/-- T9.1a `drain_releases`: the drain step of `close()` closes every stream that is in the table
(its reader then reaches end of stream or the error, C01) and resolves its pending open. -/
theorem drain_releases (s : Sess) (sid h : Nat) (hin : (sid, h) ∈ s.streams) (o : Obj) (ho : s.objs[h]? = some o) :
    ∃ o', s.closeDrain.objs[h]? = some o' ∧ o'.closedFlag = true ∧ o'.synack ≠ .pending :=
  (closeDrain_obj s hin ho).imp fun _ h => ⟨h.1, h.2.1, h.2.2.1⟩

/-- T9.1d `drain_needs_no_lock`: once `close()` has set the flag, its next step - the drain that releases every
reader and every pending open (`drain_releases`, `drain_closes_readers`) - is enabled in EVERY state: whoever holds or
queues for the buffer lock or the writer lock (a writer inside a transport write included), the closing task does
not wait for them, and the step leaves the locks as they are.  Only the transport shutdown that follows needs the
writer lock.  (The order "flag, drain, then the writer lock" is what the `cl:flag` / `cl:drained` scheduling points and
the `stall` cases of the sched group check against the code.) -/
theorem drain_needs_no_lock (cs : CS) (t : Nat) (k : CloseK) (h : (cs.task t).pc = .cflag k) :
    ∃ cs', micro cs t = some cs' ∧ cs'.s = cs.s.closeDrain ∧ cs'.bufHolder = cs.bufHolder ∧ cs'.wrHolder = cs.wrHolder := by
  refine ⟨({ cs with s := cs.s.closeDrain }.setPC t (.cdrained k)), ?_, rfl, rfl, rfl⟩
  unfold micro
  simp only [h]

/-- T9.1a' `drain_closes_readers`: a stream that is in both tables under the same handle (every
stream `open_stream` registered and no FIN removed) has its inbound channel closed by the drain:
its reader obtains what was queued and then end of stream (`C08.closed_reader_read`). -/
theorem drain_closes_readers (s : Sess) (sid h : Nat) (hin : (sid, h) ∈ s.streams) (hrecv : (sid, h) ∈ s.recv)
    (o : Obj) (ho : s.objs[h]? = some o) :
    ∃ o', s.closeDrain.objs[h]? = some o' ∧ o'.rd.chanOpen = false ∧ o'.closedFlag = true :=
  (closeDrain_obj s hin ho).imp fun _ h => ⟨h.1, h.2.2.2 hrecv, h.2.1⟩

/-- closed, then someone is still executing `close()` or the transport has been shut down.  Not a field of `Inv`: that one
holds from any session (`C11.inv_init`), this one only from a session that starts open (`closeInv_reach`), and only
`closed_then_shut` reads it. -/
def CloseInv (cs : CS) : Prop :=
  cs.s.closed = true → (∃ t, (cs.task t).pc.closing = true) ∨ cs.s.shut = true

theorem closeInv_micro (cs cs' : CS) (t : Nat) (h : CloseInv cs) (hm : micro cs t = some cs') : CloseInv cs' := by
  intro hc'
  rcases micro_close hm with ⟨e1, e2, e3⟩ | ⟨_, _, e3⟩ | ⟨_, e2⟩
  · rcases h (e1 ▸ hc') with ⟨u, hu⟩ | hs
    · refine .inl ⟨u, ?_⟩
      by_cases eu : u = t
      · rw [eu, e3, ← eu]; exact hu
      · rw [← closing_norm, (micro_others hm u eu).1, closing_norm]; exact hu
    · exact .inr (e2 ▸ hs)
  · exact .inl ⟨t, e3⟩
  · exact .inr e2

theorem closeInv_reach (s : Sess) (hc : s.closed = false) {cs : CS} (r : Reach (initCS s) cs) : CloseInv cs := by
  induction r with
  | refl => intro h; simp [initCS, hc] at h
  | @step cs cs' r st ih =>
    cases st with
    | act _ t hm => exact closeInv_micro _ _ t ih hm
    | spawn k hk =>
      -- the new id was unused: it was not inside `close()`
      have hun := ((inv_reach s r).ids.unused cs.n (Nat.le_refl _)).1
      intro hc'
      refine (ih hc').imp (fun ⟨u, hu⟩ => ⟨u, ?_⟩) id
      rw [spawn_task, if_neg (fun e => by rw [e, hun] at hu; cases hu)]; exact hu
    | env b => exact ih
    | recv f hq =>
      obtain ⟨_, _, c3, c4, _⟩ := recv_core cs.s f hq
      exact fun hc' => (ih (c3 ▸ hc')).imp id (c4 ▸ ·)

/-- T9.1b `closed_forever`: once the flag is set it stays set, under every step. -/
theorem closed_forever {cs cs' : CS} (st : Step cs cs') (h : cs.s.closed = true) : cs'.s.closed = true := by
  cases st with
  | act _ t hm => exact micro_closed_mono hm h
  | spawn k _ _ _ => exact h
  | env b => exact h
  | recv f hq => show (cs.s.handleFrame f).1.closed = true; rw [(recv_core cs.s f hq).2.2.1]; exact h

/-- T9.1c `closed_then_shut`: in every reachable state of a session that started open: if it
is closed and nobody is inside `close()` any more, the transport has been shut down. -/
theorem closed_then_shut (s : Sess) (hc : s.closed = false) {cs : CS} (r : Reach (initCS s) cs)
    (hcl : cs.s.closed = true) (hnone : ∀ t, (cs.task t).pc.closing = false) : cs.s.shut = true := by
  rcases closeInv_reach s hc r hcl with ⟨t, ht⟩ | h
  · rw [hnone t] at ht; cases ht
  · exact h

/-- T9.2 `no_deadlock`: in every reachable state, under every interleaving and with every
combination of termination causes, as long as some task has not finished some task can take a
step: no task waits for a lock whose holder waits for it (or for itself). -/
theorem no_deadlock (s : Sess) (hc : s.closed = false) {cs : CS} (r : Reach (initCS s) cs) (t : Nat)
    (ht : (cs.task t).pc ≠ .fin) : ∃ u cs', micro cs u = some cs' :=
  progress cs (inv_reach s r).lock t ht

/-- T9.4a `later_open_fails`: an `open_stream` that starts on a closed session returns the
session-closed error at once and registers nothing. -/
theorem later_open_fails (cs : CS) (t : Nat) (rest : List COp) (hpc : (cs.task t).pc = .idle)
    (hop : (cs.task t).ops = .open :: rest) (hcl : cs.s.closed = true) :
    ∃ cs', micro cs t = some cs' ∧ (cs'.task t).results = (cs.task t).results ++ [.errClosed] ∧ cs'.s = cs.s := by
  unfold micro
  simp only [hpc, hop, hcl, if_true]
  refine ⟨_, rfl, ?_, rfl⟩
  rw [finishOp_self]
  show ((cs.setTask t _).task t).results ++ _ = _
  rw [setTask_task, if_pos rfl]

/-- T9.4b `later_write_fails`: a `write_frame` that gets the buffer lock on a closed session
returns the session-closed error, writes nothing, buffers nothing and releases the lock. -/
theorem later_write_fails (cs : CS) (t : Nat) (b : Bytes) (fs : List Bytes) (hpc : (cs.task t).pc = .locked (b :: fs))
    (hcl : cs.s.closed = true) :
    ∃ cs', micro cs t = some cs' ∧ (cs'.task t).results = (cs.task t).results ++ [.errClosed] ∧
      cs'.s = cs.s ∧ cs'.log = cs.log ∧ (cs'.task t).pc = .idle := by
  unfold micro
  simp only [hpc, hcl, if_true]
  refine ⟨_, rfl, ?_, by rw [finishOp_s, releaseBuf_s], by rw [finishOp_log, releaseBuf_log], by rw [finishOp_pc, if_pos rfl]⟩
  rw [finishOp_self]
  show (cs.releaseBuf.task t).results ++ _ = _
  rw [releaseBuf_results]

/-- T9.4c: a write that fails on the transport returns the I/O error after the session has been
closed by that very task (`handle_io_error`): the state `wdone errIo` exists only in closed sessions. -/
theorem failed_write_closes (s : Sess) {cs : CS} (r : Reach (initCS s) cs) (t : Nat) (fs : List Bytes)
    (hpc : (cs.task t).pc = .wdone .errIo fs) : cs.s.closed = true :=
  (inv_reach s r).order.ac t (by rw [hpc]; rfl)

/-- T9.3 `every_schedule_is_bounded`: from any reachable state, under EVERY interleaving (no
fairness assumed), the tasks can take at most `totalCost K` further actions altogether, where
`K` only has to exceed the number of `write_all` calls one packet of the scheme can need by 12:
no task runs for ever, no livelock.  With `no_deadlock`: the run can only stop when every task
has finished — nothing blocks for ever. -/
theorem every_schedule_is_bounded (s : Sess) (hc : s.closed = false) {cs : CS} (r : Reach (initCS s) cs)
    (K : Nat) (hK : cs.s.scheme.maxParts + 12 ≤ K) (l : List Nat) (cs' : CS) (h : runSched cs l = some cs') :
    l.length ≤ totalCost K cs :=
  Nat.le_trans (Nat.le_add_right _ _) (sched_bounded K l cs cs' (inv_reach s r).ids hK h)

/-- T9.3, with `no_deadlock`: a state in which no task can act has finished every task -/
theorem stuck_means_finished (s : Sess) (hc : s.closed = false) {cs : CS} (r : Reach (initCS s) cs)
    (hstuck : ∀ u, micro cs u = none) (t : Nat) : (cs.task t).pc = .fin := by
  refine Decidable.byContradiction fun hne => ?_
  obtain ⟨u, c, hu⟩ := no_deadlock s hc r t hne
  rw [hstuck u] at hu; cases hu

/-- non-vacuity: the demo state of C11 (two tasks, fresh client session) has a finite budget -/
example : demoCS.s.scheme.maxParts + 12 ≤ 14 ∧ totalCost 14 demoCS = 77 := by decide +kernel

/-! ### the receive loop's end of input (sequential model `Model/Session.lean`, the one the `sess` group drives)

The interleaving model above treats "the receive loop reacts to EOF / a read error" as a task that calls `close()`.
That it does so *whatever the receive buffer still holds* — a peer may end the transport in the middle of a frame — is a
statement about the sequential model of the loop (seed C09f made the loop leave before `close()` in exactly that case). -/

theorem close_sets_closed (s : Sess) : s.close.closed = true ∧ s.close.shut = true ∨ (s.closed = true ∧ s.close = s) := by
  fun_cases Sess.close s
  · exact .inr ⟨‹_›, rfl⟩
  · exact .inl ⟨rfl, rfl⟩

/-- T9.1e `end_of_input_closes`: when the transport ends (clean end of input or a read error) while the loop is still
running, the session is closed and its transport shut down — for every content of the receive buffer, in particular a
partial frame — and the loop is over. -/
theorem end_of_input_closes (s : Sess) (hrun : s.recvDone = false) :
    s.feedEnd.closed = true ∧ s.feedEnd.recvDone = true := by
  unfold Sess.feedEnd
  simp only [hrun, Bool.false_eq_true, if_false, and_true]
  rcases close_sets_closed s with h | h
  · exact h.1
  · rw [h.2]; exact h.1

/-- non-vacuity: a server session that has received three bytes of a header and then the end of input -/
example : (((C02.exS.feedBytes [2, 0, 0]).feedEnd).closed = true) ∧ ((C02.exS.feedBytes [2, 0, 0]).rbuf = [2, 0, 0]) := by
  decide

end AnyTLS.C09
