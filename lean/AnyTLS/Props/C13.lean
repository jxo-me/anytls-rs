/-
C13 — sessions are reused instead of re-dialled.
The property itself is FALSE of the current code (recorded as a known finding): only creation
inserts a session into the idle map and reuse removes it, so every second sequential request
re-dials and the sessions taken are never returned nor closed.  Kept here: the full
statements with their refutations, and the part that does hold.
Model: `Model/Pool.lean` (`Pool.request`, `Pool.streamDone`, `sequentialRun`).
-/
import AnyTLS.Model.Pool

namespace AnyTLS.C13
open AnyTLS

def emptyPool (cfg : PoolCfg) : Pool := { cfg := cfg }

/-- T13.1 `sequential_reuse` (the property as wanted): in any history in which no two requests
overlap, at most one TLS connection is ever dialled while the session stays healthy. -/
def sequential_reuse : Prop :=
  ∀ (cfg : PoolCfg) (n : Nat), (sequentialRun n (emptyPool cfg) 0).2 ≤ 1

/-- T13.1 is false: three non-overlapping requests dial twice (sessions used: 0, 0, 1).
Replayed on the real client + server over loopback (`e2e reuse n`: session identities
`[0,0,1,1,2,2,…]`, ⌈n/2⌉ TLS connections), which the model predicts exactly. -/
theorem sequential_reuse_refuted : ¬ sequential_reuse := by
  intro h
  have := h { interval := 30000, timeout := 60000, minIdle := 1 } 3
  revert this
  decide

/-- T13.2 `bounded_sessions` (the property as wanted): the number of sessions that stay open is
bounded by peak concurrency (1 for sequential requests) plus the idle minimum. -/
def bounded_sessions : Prop :=
  ∀ (cfg : PoolCfg) (n : Nat),
    let ids := (sequentialRun n (emptyPool cfg) 0).1
    ids.eraseDups.length ≤ 1 + cfg.minIdle

/-- T13.2 is false: with min_idle = 1, six sequential requests leave three sessions open (none of
them is ever closed: each keeps itself alive with its own heartbeat). -/
theorem bounded_sessions_refuted : ¬ bounded_sessions := by
  intro h
  have := h { interval := 30000, timeout := 60000, minIdle := 1 } 6
  revert this
  decide

/-- T13.3 (partial — what holds): the second of two non-overlapping requests is served by the
first one's session without a new dial, whatever the pool settings. -/
theorem second_request_reuses_partial (cfg : PoolCfg) :
    sequentialRun 2 (emptyPool cfg) 0 = ([0, 0], 1) := rfl

/-- T13.3b (partial): a closed session is never reused (C12 `get_not_closed`), and a request
dials only when no open idle session exists. -/
theorem dial_only_when_no_idle (p : Pool) (now : Nat) :
    (p.request now).2.1 = true ↔ p.getIdle.1 = none := by
  unfold Pool.request
  cases hg : p.getIdle with
  | mk r p' => cases r <;> simp

/-! ### an idle session is not lost to another session's arrival

The idle map is keyed by the session's `seq`; an insertion under a key that is already there replaces the entry.  Which
key `add_idle_session` uses and where a session's `seq` comes from are regenerated from the source (`Gen.poolKey`,
`Gen.seqSource`; the extractor fails closed on any other shape). -/

/-- Obligations on the code: the key is the session's own `seq`, and `seq` comes from one process-wide counter that is
advanced for every session — so no two sessions of a process ever carry the same key. -/
theorem gen_pool_key_unique : Gen.poolKey = .sessionSeq ∧ Gen.seqSource = .processCounter := by decide

theorem insertSorted_keeps (e : PEntry) : ∀ (l : List PEntry), (∀ x ∈ l, x.seq ≠ e.seq) →
    ∀ x ∈ l, x ∈ insertSorted e l := by
  intro l
  fun_induction insertSorted e l with
  | case1 => nofun
  | case2 y ys _ => exact fun _ x hx => List.mem_cons_of_mem _ hx
  | case3 y ys _ h => exact fun hne => absurd (beq_iff_eq.mp h).symm (hne y List.mem_cons_self)
  | case4 y ys _ _ ih =>
    intro hne x hx
    rcases List.mem_cons.mp hx with rfl | hx
    · exact List.mem_cons_self
    · exact List.mem_cons_of_mem _ (ih (fun z hz => hne z (List.mem_cons_of_mem _ hz)) x hx)

/-- T13.4 `add_keeps_other_sessions`: a session that arrives under a key no idle session carries leaves every idle
session where it is — a healthy idle session is never dropped from the pool (un-reusable and un-reaped) because another
one was added. -/
theorem add_keeps_other_sessions (p : Pool) (seq sess now : Nat) (h : ∀ x ∈ p.idle, x.seq ≠ seq) :
    ∀ x ∈ p.idle, x ∈ (p.addIdle seq sess now).idle := by
  intro x hx
  unfold Pool.addIdle
  split
  · exact hx
  · exact insertSorted_keeps { seq := seq, sess := sess, since := now } p.idle h x hx

/-- the excluded case, refuted by a witness: two sessions under one key (what renumbering inside the pool produced in
seed C13e) — the healthy idle session 3 is gone from the map. -/
theorem same_key_evicts_refuted :
    insertSorted { seq := 1, sess := 7, since := 0 } [{ seq := 1, sess := 3, since := 0 }]
      = [{ seq := 1, sess := 7, since := 0 }] := by decide

/-- the exact behaviour of the current code, for the record: n sequential requests from an
empty pool dial ⌈n/2⌉ times (instances checked by kernel evaluation; the e2e run compares the
real client with `sequentialRun` for every n it tries). -/
theorem sequential_dials_instances :
    (List.range 9).map (fun n => (sequentialRun n (emptyPool { interval := 30000, timeout := 60000, minIdle := 1 }) 0).2)
      = [0, 1, 1, 2, 2, 3, 3, 4, 4] := by decide +kernel

end AnyTLS.C13
