/-
C05 — early client packets are shaped as the padding scheme prescribes.
The statement's acceptor is `Allowed` (Lemmas/Padding.lean); the code's shaping is `shape` /
`writePacket` / `Sess.writeWithPadding` / `preamble`.
-/
import AnyTLS.Lemmas.Padding
import AnyTLS.Lemmas.Session
import AnyTLS.Model.Proc

namespace AnyTLS.C05
open AnyTLS AnyTLS.Gen

/- Gen obligations (three): the first session packet is packet 1 (packet 0 is the authentication
preamble), the client pads and the server never does. -/
theorem gen_first_packet_index : Gen.pktCounterInitClient + Gen.pktFetchOffset = 1 := by decide
theorem gen_client_pads : Gen.sendPaddingClient = true := by decide
theorem gen_server_never_pads : Gen.sendPaddingServer = false := by decide

/-- T5.1 `shape_allowed`: for every accepted scheme, every packet index below `stop` whose
line has entries, every draw vector and every non-empty payload, the lengths of the transport
writes are permitted by that line: a drawn size for a payload-only record, the drawn size for
payload completed with padding (or just the rest when the gap is at most one frame header),
the drawn size plus one frame header for a padding-only record, stopping at a check mark once
no payload remains, and a final write for what is left after the last entry. -/
theorem shape_allowed (s : Scheme) (k : Nat) (rs : List Nat) (payload : Bytes)
    (hk : k < s.stop) (hne : (s.specs k) ≠ []) :
    Allowed (s.specs k) payload.length ((writePacket true s k rs payload).map List.length) := by
  have hr : resolve (s.specs k) rs ≠ [] := fun h =>
    hne (List.eq_nil_of_length_eq_zero (by rw [← resolve_length _ rs, h]; rfl))
  rw [writePacket, if_neg (by decide), if_neg (Nat.not_le.mpr hk)]
  simp only [List.isEmpty_iff, hr, if_false]
  exact shape_allowed_of_matches (resolve_matches _ rs (specs_sane s k)) payload

/-- T5.2: from packet `stop` onward, for a missing (or entry-less) line, and on the server side
always, the packet is written as it is: exactly one write, no padding. -/
theorem no_padding_from_stop (s : Scheme) (k : Nat) (rs : List Nat) (payload : Bytes) (hk : k ≥ s.stop) :
    writePacket true s k rs payload = [payload] := by
  simp [writePacket, hk]

theorem no_padding_without_line (s : Scheme) (k : Nat) (rs : List Nat) (payload : Bytes)
    (hne : s.specs k = []) : writePacket true s k rs payload = [payload] := by
  unfold writePacket
  simp only [Bool.not_true, Bool.false_eq_true, if_false, hne]
  split <;> simp [resolve]

theorem server_never_pads (s : Scheme) (k : Nat) (rs : List Nat) (payload : Bytes) :
    writePacket Gen.sendPaddingServer s k rs payload = [payload] := by
  simp [writePacket, gen_server_never_pads]

/-- T5.3 `preamble_exact`: the authentication preamble is the 32-byte hash, the big-endian
padding length `p0` and `p0` zero bytes, where `p0` is the first size of line 0 (0 when the
line is absent, empty, or starts with a check mark) — and `p0` lies inside the range of that
first entry. -/
theorem preamble_exact (hash : Bytes) (s : Scheme) (rs : List Nat) :
    ∃ p0, flatten (preamble hash s rs) = hash ++ be16 p0 ++ zeros p0 ∧ p0 ≤ 65535 ∧
      (match s.specs 0 with
       | .range lo hi :: _ => lo ≤ p0 ∧ p0 ≤ hi
       | _ => p0 = 0) := by
  have hm := resolve_matches (s.specs 0) rs (specs_sane s 0)
  have hsane := specs_sane s 0
  unfold preamble
  generalize s.specs 0 = specs at hm hsane ⊢
  generalize resolve specs rs = sizes at hm ⊢
  cases hm with
  | nil => exact ⟨0, by simp [zeros], by omega, rfl⟩
  | check _ => exact ⟨0, by simp [zeros], by omega, rfl⟩
  | @range lo hi n _ sz h1 h2 _ =>
    obtain ⟨_, _, _⟩ : 1 ≤ lo ∧ lo ≤ hi ∧ hi ≤ 65535 := hsane _ List.mem_cons_self
    refine ⟨n, ?_, by omega, ⟨h1, h2⟩⟩
    cases n <;> simp [zeros, List.append_assoc]

/-- T5.4 `packet_index`: a shaped write of the session uses the line numbered by the packet
counter and advances the counter by one; with `gen_first_packet_index` the j-th session
packet (j = 1, 2, …) is shaped by line j.  (While the transport accepts the writes, the bytes
added to the wire are exactly `writePacket` for that index.) -/
theorem packet_index (s : Sess) (payload : Bytes) (hp : s.sendPadding = true)
    (hb : s.wrBudget = none) (hs : s.shut = false) :
    ∃ rs, (s.writeWithPadding payload).1.wire
        = s.wire ++ writePacket true s.scheme (s.pktCounter + Gen.pktFetchOffset) rs payload ∧
      (s.writeWithPadding payload).1.pktCounter = s.pktCounter + 1 ∧
      (s.writeWithPadding payload).2 = .ok := by
  refine ⟨(drawN (drawsNeeded (s.scheme.specs (s.pktCounter + Gen.pktFetchOffset))) s.rng).1, ?_⟩
  unfold writePacket
  -- the branches of `writeWithPadding`: 1 no padding, 2 at or past `stop`, 3 / 4 the line resolves to no sizes / to some
  fun_cases Sess.writeWithPadding s payload
  case case1 h => rw [hp] at h; cases h
  -- `by exact`: the session is chosen by the rewrite before the side goals are checked
  all_goals
    rw [transportWrites_accepts _ _ (by exact hb) (by exact hs)]
    refine ⟨congrArg (s.wire ++ ·) ?_, rfl, rfl⟩
    rw [if_neg (by decide)]
  case case2 h => rw [if_pos h]
  case case3 => rw [if_neg ‹¬ _ ≥ _›, ‹drawN _ _ = _›]; exact (if_pos ‹_›).symm
  case case4 => rw [if_neg ‹¬ _ ≥ _›, ‹drawN _ _ = _›]; exact (if_neg ‹_›).symm

/-- refutation of T5.4 for the *pinned* tree (counter starting at 0): the first session packet
would be shaped by line 0 -/
theorem pinned_first_packet_uses_line_zero : (0 : Nat) + Gen.pktFetchOffset = 0 := by decide

/-- non-vacuity of `shape_allowed`: entries 5–9 then a check mark, 3 payload bytes, draw 2 ⇒ one
write of 3 bytes (gap ≤ 7), then stop at the check mark -/
example : Allowed [.range 5 9, .check, .range 2 2] 3 [3] :=
  .completed_nopad (d := 7) (by omega) (by omega) (by omega) (by omega) (by omega) .check_stop

/-! ### which scheme the preamble of a newly dialled session is shaped by

`Gen.preambleSchemeFrom` / `Gen.sessionSchemeFrom` are regenerated from `Client::create_new_session`: the scheme
argument of `send_authentication` and of `Session::new_client`.  The obligation: both are the *effective* scheme, so
the `s` of `preamble_exact` is the very scheme the session runs and announces — also for a session dialled after a
server has pushed a scheme. -/

theorem gen_preamble_uses_session_scheme :
    Gen.preambleSchemeFrom = Gen.sessionSchemeFrom ∧ Gen.sessionSchemeFrom = .effective := by decide

/-- the preamble of every newly dialled session is shaped by the scheme that session is created with, which is the
process-wide effective one -/
theorem preamble_scheme_is_session_scheme (p : Proc) (cfg : Scheme) :
    (p.dialSchemes cfg).1 = (p.dialSchemes cfg).2 ∧ (p.dialSchemes cfg).2 = p.global := by
  obtain ⟨h1, h2⟩ := gen_preamble_uses_session_scheme
  simp only [Proc.dialSchemes, h1, h2, Proc.pick, and_self]

/-- the excluded shape (preamble from the configured scheme, session from the effective one) does put another
line 0 on the wire as soon as a different scheme has been pushed -/
theorem configured_preamble_differs (a b : Scheme) (h : a ≠ b) :
    let p : Proc := { global := b }
    p.pick a .configured ≠ p.pick a .effective := by
  simpa [Proc.pick] using h

end AnyTLS.C05
