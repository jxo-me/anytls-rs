/-
C08 — end of stream reaches the other side, after all the data.
Proved: the *receive* half (what a session does with a received FIN) and its independence from
the send direction.  The *send* half — a forwarder that sees local end-of-stream emits a FIN
after its data, and finished streams leave the tables — is FALSE of the code (no code path
ever sends FIN); it is kept below as `local_close_propagates`, refuted, and reported by the
e2e scenarios as known findings (KNOWN_FINDINGS.txt).
-/
import AnyTLS.Lemmas.Session
import AnyTLS.Props.C01

namespace AnyTLS.C08
open AnyTLS AnyTLS.Gen

/-- T8.1a: a reader whose channel is closed delivers exactly what is still deliverable and only
then reports end of stream — never earlier, never blocking. -/
theorem closed_reader_read (r : RState) (n : Nat) (hn : n ≠ 0) (hwf : r.WF) (hc : r.chanOpen = false) :
    (r.pending = [] → (r.read n).1 = .eof) ∧
    (r.pending ≠ [] → ∃ b r', r.read n = (.data b, r') ∧ b ≠ [] ∧ b ++ r'.pending = r.pending ∧
        r'.chanOpen = false ∧ r'.WF) := by
  rcases hr : r.read n with ⟨b | _ | _, r'⟩ <;> have hs := read_spec hn hwf hr
  · obtain ⟨hb, _, hcat, hco, hw⟩ := hs
    exact ⟨fun hp => absurd (List.append_eq_nil_iff.mp (hp ▸ hcat)).1 hb,
      fun _ => ⟨b, r', rfl, hb, hcat, hco.trans hc, hw⟩⟩
  · exact ⟨fun _ => rfl, fun hp => absurd hs.1 hp⟩
  · rw [hc] at hs; cases hs.2.2

/-- T8.1 `fin_after_data`: a FIN for a registered stream closes that stream's inbound channel
and keeps everything queued before it: the reader obtains exactly the bytes queued before the
FIN and then end of stream (by `closed_reader_read` and C01's `reads_complete`). -/
theorem fin_after_data (s : Sess) (f : Frame) (hc : f.cmd = .fin) (h : Nat) (o : Obj) (hwf : s.WF)
    (hr : tblGet s.recv f.sid = some h) (ho : s.objs[h]? = some o) :
    ∃ o', (s.handleFrame f).1.objs[h]? = some o' ∧ o'.rd.pending = o.rd.pending ∧
      o'.rd.chanOpen = false ∧ o'.rd.WF := by
  have hd : (s.dropRecvEntry f.sid).objs[h]? = some { o with rd := o.rd.closeChan } := by
    rw [dropRecvEntry_eq, modAt_getElem?, if_pos hr, ho]; rfl
  have hw := closeChan_WF o.rd (hwf.rd_ok h o ho)
  rw [handleFrame_fin_eq s f hc]
  show ∃ o', ((s.dropRecvEntry f.sid).failPendingOpen f.sid).objs[h]? = some o' ∧ _
  -- the pending-open slot may be failed too: that leaves the reader alone
  rw [failPendingOpen_eq, modAt_getElem?, hd]
  split
  · refine ⟨_, rfl, ?_⟩
    rw [notifySynack_rd]
    exact ⟨rfl, rfl, hw⟩
  · exact ⟨_, rfl, rfl, rfl, hw⟩

/-- T8.2 `fin_releases`: a FIN removes the entry of its stream id from both tables and touches
the entries of no other id. -/
theorem fin_releases (s : Sess) (f : Frame) (hc : f.cmd = .fin) :
    tblGet (s.handleFrame f).1.streams f.sid = none ∧ tblGet (s.handleFrame f).1.recv f.sid = none ∧
    ∀ k, k ≠ f.sid → tblGet (s.handleFrame f).1.streams k = tblGet s.streams k ∧
                      tblGet (s.handleFrame f).1.recv k = tblGet s.recv k := by
  rw [handleFrame_fin_eq s f hc, failPendingOpen_eq, modAt_eq, dropRecvEntry_eq, modAt_eq]
  refine ⟨?_, ?_, fun k hk => ?_⟩ <;> simp [Sess.release, tblGet_remove, *]

/-- T8.3: the other direction keeps working: a received FIN changes nothing the write path
depends on (closed flag, buffering, buffer, packet counter, scheme, transport), so data can
still be sent on that stream id until this side ends it too. -/
theorem fin_leaves_send_direction (s : Sess) (f : Frame) (hc : f.cmd = .fin) :
    let s' := (s.handleFrame f).1
    s'.closed = s.closed ∧ s'.buffering = s.buffering ∧ s'.buffer = s.buffer ∧
    s'.pktCounter = s.pktCounter ∧ s'.scheme = s.scheme ∧ s'.wire = s.wire ∧ s'.shut = s.shut ∧
    s'.wrBudget = s.wrBudget ∧ s'.sendPadding = s.sendPadding := by
  rw [handleFrame_stream_eq s f (by simp [hc])]
  exact ⟨rfl, rfl, rfl, rfl, rfl, rfl, rfl, rfl, rfl⟩

/-- what a forwarder observes from its local side -/
inductive LocalEv where
  | data (b : Bytes)
  | eof

/-- the frames the forwarders of the *current code* submit for a stream (socks5.rs task2,
http_proxy.rs `to_proxy`, handler.rs task2, the UDP relays): one data frame per chunk read,
and on local end of stream they simply return — no code path submits a FIN -/
def forwarderFrames (sid : Nat) : List LocalEv → List Frame
  | [] => []
  | .data b :: evs => { cmd := .push, sid := sid, data := b } :: forwarderFrames sid evs
  | .eof :: _ => []

/-- T8.4 (full statement, kept): when a forwarder sees local end of stream, a FIN for that
stream follows all previously submitted data. -/
def local_close_propagates : Prop :=
  ∀ (sid : Nat) (evs : List LocalEv), LocalEv.eof ∈ evs →
    ∃ pre, forwarderFrames sid evs = pre ++ [{ cmd := .fin, sid := sid, data := [] }]

/-- T8.4 is false of the current code: the application half-closes after one chunk and no FIN
is ever submitted (replayed on the real code by the e2e scenarios `halfclose` / `targetclose`:
the target / the application receives the bytes and no end of stream; the client keeps the
stream in its tables).  Recorded as known findings. -/
theorem local_close_propagates_refuted : ¬ local_close_propagates := by
  intro h
  obtain ⟨pre, hp⟩ := h 1 [.data [1], .eof] (by simp)
  simp only [forwarderFrames] at hp
  have := congrArg List.getLast? hp
  simp at this

/-- the part of the send half that does hold: every frame submitted is a data frame of that stream -/
theorem forwarder_data_in_order_partial (sid : Nat) (evs : List LocalEv) :
    ∀ f ∈ forwarderFrames sid evs, f.cmd = .push ∧ f.sid = sid := by
  fun_induction forwarderFrames sid evs with
  | case1 | case3 => nofun
  | case2 b evs ih => exact List.forall_mem_cons.mpr ⟨⟨rfl, rfl⟩, ih⟩

/-! ### the peer's FIN at the server: from the stream to the target (M14, `Model/Relay.lean`)

What a relay loop's task does once the loop is over is regenerated from the source (`RelaySite.atEnd`).  For the
server's stream → target loop the end of the stream (the peer's FIN, `fin_after_data`) has to become the end of the
target's input.  (The five other loops end silently: those are the known findings above and carry no obligation.) -/

/-- Obligation on the code: the server's stream → target task shuts the target's write side down after its loop (the
split write half is not shut down by being dropped: the defect repaired in `8509bd3`). -/
theorem gen_server_upstream_shuts_target :
    (Gen.relaySites.find? (fun s => s.file == "src/server/handler.rs" && s.write == .writeAll)).map (·.atEnd)
      = some .shutdownSink := by decide

/-- T8.5: for every relay loop of the code that does something at its end: whenever the loop ends because its source
ended — for every sequence of reads, every buffer content, every short-write behaviour of the sink — the sink's peer
has received every byte the source produced, in order, once, and the end of stream after them (nothing is written
after it, so never before them). -/
theorem end_after_all_data (s : Gen.RelaySite) (hs : s ∈ Gen.relaySites) (hend : s.atEnd ≠ .nothing)
    (reads : List Bytes) (buf : Bytes) (caps : List Nat)
    (hdone : (Relay.run s.write s.slice buf reads caps).sourceDone = true) :
    Relay.finish s.atEnd (Relay.run s.write s.slice buf reads caps) = { bytes := flatten reads, ended := true } := by
  rw [Relay.finish, C01.every_relay_loop_complete s hs reads buf caps hdone, bne_iff_ne.mpr hend]

/-- the excluded shape: a task that ends silently never ends the sink's input, whatever it delivered -/
theorem silent_end_never_reaches_sink (o : Relay.Out) : (Relay.finish .nothing o).ended = false := by rfl

/-- non-vacuity: the server's stream → target site exists, ends its sink, and a run of it ends by its source -/
example : ∃ s ∈ Gen.relaySites, s.atEnd ≠ .nothing ∧
    (Relay.run s.write s.slice [] [[1, 2, 3], [4, 5]] [2, 9, 1, 1]).sourceDone = true :=
  ⟨⟨"src/server/handler.rs", .writeAll, .prefixN, .shutdownSink⟩, by decide, by decide, by decide⟩

/-- non-vacuity: stream 5 of the example server state, three queued bytes, then FIN -/
example :
    let s := (C02.exS.handleFrame { cmd := .push, sid := 5, data := [1, 2, 3] }).1
    ((((s.handleFrame { cmd := .fin, sid := 5, data := [] }).1.objs[1]?).map (·.rd.pending)) = some [1, 2, 3]) := by
  decide

end AnyTLS.C08
