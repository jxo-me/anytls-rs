/-
C20 — hostile or garbled input cannot crash or wedge the proxy.
What a Lean theorem can give here is totality and progress of the model, state invariants under
every frame, prefix stability of the parsers and isolation between sessions; that the *Rust*
code does not panic or hang is established by the correspondence run on hostile inputs (bounded,
labelled as such): the model never produces "panicked" or "blocked", so any panic or hang is a
disagreement with a replay.
-/
import AnyTLS.Props.C02
import AnyTLS.Props.C03
import AnyTLS.Props.C04
import AnyTLS.Props.C06
import AnyTLS.Props.C16
import AnyTLS.Props.C19

namespace AnyTLS.C20
open AnyTLS AnyTLS.Gen

/-- T20.1: the receive loop's decoding step is total and makes progress on every byte string:
at most |buf|/7 frames, every byte accounted for, the residue is an incomplete frame (C03). -/
theorem receive_loop_total (b : Bytes) :
    sumSizes (decodeAll b).1 + (decodeAll b).2.length = b.length ∧
    decodeStep (decodeAll b).2 = none ∧ 7 * (decodeAll b).1.length ≤ b.length :=
  C03.decodeAll_total b

/-- the transport accepts every write (no budget, not shut down) -/
def HealthyTransport (s : Sess) : Prop := s.wrBudget = none ∧ s.shut = false

/-- T20.2 `closes_only_on_alert`: while the transport accepts writes, no frame of any kind — any
of the 11 commands or an unknown byte, any stream id, any payload, legal or illegal for the
receiver's role — closes an open session, except the fatal Alert. -/
theorem closes_only_on_alert (s : Sess) (f : Frame) (hopen : s.closed = false) (ht : HealthyTransport s)
    (hc : (s.handleFrame f).1.closed = true) : f.cmd = .alert := by
  by_cases ha : f.cmd = .alert
  · exact ha
  · rw [(handleFrame_accepts s f ha false ⟨hopen, ht⟩).1] at hc; cases hc

/-- T20.2b: quiet frames keep every state invariant (tables consistent, readers well-formed). -/
theorem quiet_frames_keep_invariant (s : Sess) (f : Frame) (hq : quietCmd f.cmd = true) (hwf : s.WF) :
    (s.handleFrame f).1.WF := (handleFrame_quiet_local s f hq hwf).wf hwf

/-- T20.3: scheme payloads: whatever a scheme says, the sizes the sender acts on are in range
(C04 `sizes_sane`; that `Scheme.parse` is total is its being a function). -/
theorem scheme_payloads_sane (raw : Bytes) (sch : Scheme) (_h : Scheme.parse raw = some sch) (pkt : Nat) (rs : List Nat) :
    ∀ sz ∈ resolve (sch.specs pkt) rs, ∀ n, sz = .size n → 1 ≤ n ∧ n ≤ 65535 :=
  (C04.sizes_sane sch pkt rs).2

/-- T20.4: the front-end parsers reach the same verdict however the bytes are segmented (a
verdict on a prefix is the verdict on every extension): authentication preamble, SOCKS5
greeting. (Destination headers and datagrams: C07 `dest_roundtrip`, C15 `dgram_roundtrip`.) -/
theorem parsers_prefix_stable (exp a b : Bytes) :
    (authServer exp a ≠ .needMore → authServer exp (a ++ b) = authServer exp a) ∧
    (socksGreeting a ≠ .needMore → socksGreeting (a ++ b) = socksGreeting a) :=
  ⟨C06.auth_prefix_stable exp a b, C16.greeting_prefix_stable a b⟩

/-- T20.5: sessions of one process share nothing but the process-wide default scheme: whatever a
peer sends to session `i`, every other session's state is untouched. -/
theorem sibling_untouched (p : Proc) (i j : Nat) (f : Frame) (hij : j ≠ i) :
    (p.frame i f).sessions[j]? = p.sessions[j]? := by
  unfold Proc.frame
  cases hi : p.sessions[i]? with
  | none => rfl
  | some s =>
    simp only [List.getElem?_mapIdx]
    cases p.sessions[j]? with
    | none => rfl
    | some t => simp [hij]

end AnyTLS.C20
