/-
C01 — every stream is a lossless, ordered, exact byte pipe.
Models: `Model/Reader.lean` (chunk-queue reader), `Model/Session.lean` (PSH dispatch),
`Model/Frame.lean` (codec; chunking independence is C03); the cutting of a chunk into frame
payloads is the function `pieces` below.
-/
import AnyTLS.Lemmas.Session
import AnyTLS.Lemmas.Frame
import AnyTLS.Props.C02
import AnyTLS.Props.C03
import AnyTLS.Props.C10
import AnyTLS.Props.C11
import AnyTLS.Lemmas.Relay

namespace AnyTLS.C01
open AnyTLS AnyTLS.Gen

/-- operations on one stream's inbound side -/
inductive ROp where
  /-- the session delivers a chunk (payload of one PSH frame) -/
  | push (c : Bytes)
  /-- the sending half is dropped (FIN / session close) -/
  | close
  /-- the application reads into a buffer of `n > 0` bytes -/
  | read (n : Nat)

/-- run a history; returns the final reader, the bytes pushed while the channel was open and
the bytes the application has read, plus whether end of stream was reported -/
def run : RState → List ROp → Bytes → Bytes → Bool → RState × Bytes × Bytes × Bool
  | r, [], pushed, got, e => (r, pushed, got, e)
  | r, .push c :: ops, pushed, got, e =>
    run (r.push c) ops (if r.chanOpen then pushed ++ c else pushed) got e
  | r, .close :: ops, pushed, got, e => run r.closeChan ops pushed got e
  | r, .read n :: ops, pushed, got, e =>
    match r.read n with
    | (.data b, r') => run r' ops pushed (got ++ b) e
    | (.eof, r') => run r' ops pushed got true
    | (.block, r') => run r' ops pushed got e

def readsPositive : List ROp → Prop
  | [] => True
  | .read n :: ops => n ≠ 0 ∧ readsPositive ops
  | _ :: ops => readsPositive ops

/-- the invariant behind T1.1/T1.2: everything submitted = everything read ++ everything
still deliverable; end of stream is reported only when the channel is closed and drained -/
theorem run_inv (ops : List ROp) (r : RState) (pushed got : Bytes) (e : Bool)
    (hwf : r.WF) (hpos : readsPositive ops) (h1 : pushed = got ++ r.pending)
    (h2 : e = true → r.pending = [] ∧ r.chanOpen = false) :
    let res := run r ops pushed got e
    res.2.1 = res.2.2.1 ++ res.1.pending ∧
    (res.2.2.2 = true → res.1.pending = [] ∧ res.1.chanOpen = false) := by
  fun_induction run r ops pushed got e with
  | case1 => exact ⟨h1, h2⟩
  | case2 r c ops pushed got e ih =>
    refine ih (push_WF r c hwf) hpos ?_ fun he => ?_
    · unfold RState.push; split <;> simp [h1, RState.pending, flatten_append, List.append_assoc]
    · obtain ⟨hp, hc⟩ := h2 he
      simp [RState.push, hc, hp]
  | case3 r ops pushed got e ih =>
    exact ih (closeChan_WF r hwf) hpos h1 (fun he => ⟨(h2 he).1, rfl⟩)
  | case4 r n ops pushed got e b r' hr ih =>
    obtain ⟨_, _, hcat, hco, hwf'⟩ := read_spec hpos.1 hwf hr
    apply ih hwf' hpos.2
    · rw [h1, ← hcat, List.append_assoc]
    · intro he
      obtain ⟨hp, hc⟩ := h2 he
      rw [hp] at hcat
      exact ⟨(List.append_eq_nil_iff.mp hcat).2, by rw [hco, hc]⟩
  | case5 r n ops pushed got e r' hr ih =>
    obtain ⟨hp, _, hp', hc', hwf'⟩ := read_spec hpos.1 hwf hr
    exact ih hwf' hpos.2 (by rw [h1, hp, hp']) (fun _ => ⟨hp', hc'⟩)
  | case6 r n ops pushed got e r' hr ih =>
    obtain ⟨rfl, _, _⟩ := read_spec hpos.1 hwf hr
    exact ih hwf hpos.2 h1 h2

/-- T1.1 `reads_prefix`: at every moment of every history (any chunk sizes including 0, any
read sizes, any interleaving of deliveries, reads and the close) the bytes read so far are a
prefix of the bytes submitted so far. -/
theorem reads_prefix (ops : List ROp) (hpos : readsPositive ops) :
    let res := run {} ops [] [] false
    res.2.2.1 <+: res.2.1 := by
  exact ⟨_, (run_inv ops {} [] [] false nofun hpos rfl nofun).1.symm⟩

/-- T1.2 `reads_complete`: when a history ends with end of stream reported, exactly the
submitted bytes have been read — nothing lost, duplicated or reordered — and end of stream is
never reported while the channel is open or data remains. -/
theorem reads_complete (ops : List ROp) (hpos : readsPositive ops) :
    let res := run {} ops [] [] false
    res.2.2.2 = true → res.2.2.1 = res.2.1 ∧ res.1.chanOpen = false := by
  intro res he
  have h := run_inv ops {} [] [] false nofun hpos rfl nofun
  obtain ⟨hp, hc⟩ := h.2 he
  exact ⟨by rw [h.1, hp, List.append_nil], hc⟩

/-- T1.3 `read_nonempty`: a read into a non-empty buffer never returns 0 bytes unless the
stream has ended (empty chunks are skipped), and never more than the buffer holds. -/
theorem read_nonempty (r : RState) (n : Nat) (hn : n ≠ 0) (hwf : r.WF) (b : Bytes) (r' : RState)
    (h : r.read n = (.data b, r')) : b ≠ [] ∧ b.length ≤ n := by
  have := read_spec hn hwf h
  exact ⟨this.1, this.2.1⟩

/-- `StreamReader::read` of the *pinned* tree: an empty chunk is not skipped -/
def readPinned (r : RState) (n : Nat) : ReadOut × RState :=
  if r.eof && r.rbuf.isEmpty then (.eof, r)
  else if !r.rbuf.isEmpty then (.data (r.rbuf.take n), { r with rbuf := r.rbuf.drop n })
  else match r.queue with
    | c :: q => (.data (c.take n), { r with queue := q, rbuf := c.drop n })
    | [] => if r.chanOpen then (.block, r) else (.eof, { r with eof := true })

/-- T1.3 refutation for the pinned reader: the chunk sequence `abc, "", def` makes the second
read return 0 bytes although the stream is open. -/
theorem read_empty_refuted :
    let r0 : RState := { queue := [[97, 98, 99], [], [100, 101, 102]] }
    let (_, r1) := readPinned r0 8
    (readPinned r1 8).1 = .data [] ∧ r1.chanOpen = true := by decide

/-- the cutting rule of `write_data_frame` (`Sess.writeDataFuel`: 65535 bytes at a time, the rest
last) as a function of the chunk alone; no theorem here ties it to `writeDataFuel` -/
def pieces : Nat → Bytes → List Bytes
  | 0, _ => []
  | fuel + 1, data =>
    if data.length > 65535 then data.take 65535 :: pieces fuel (data.drop 65535) else [data]

theorem pieces_spec (fuel : Nat) (data : Bytes) (h : data.length < fuel) :
    flatten (pieces fuel data) = data ∧ ∀ p ∈ pieces fuel data, p.length ≤ 65535 := by
  fun_induction pieces fuel data with
  | case1 => omega
  | case2 fuel data hl ih =>
    obtain ⟨h1, h2⟩ := ih (by rw [List.length_drop]; omega)
    refine ⟨by rw [flatten_cons, h1, List.take_append_drop], fun p hp => ?_⟩
    rcases List.mem_cons.mp hp with rfl | hp
    · rw [List.length_take]; omega
    · exact h2 p hp
  | case3 fuel data hl =>
    refine ⟨by simp, fun p hp => ?_⟩
    rw [List.mem_singleton.mp hp]; omega

/-- T1.4a `pieces_lossless`: `pieces` cuts a chunk of *any* size (0, > 65535, …) into pieces that
each fit one frame and whose concatenation is the chunk, byte for byte and in order. -/
theorem pieces_lossless (data : Bytes) :
    flatten (pieces (data.length + 1) data) = data ∧
    ∀ p ∈ pieces (data.length + 1) data, p.length ≤ 65535 :=
  pieces_spec _ data (Nat.lt_succ_self _)

/-- the payload bytes addressed to stream `k` in a frame sequence -/
def payloadFor (k : Nat) : List Frame → Bytes
  | [] => []
  | f :: fs => (if f.cmd = .push ∧ f.sid = k then f.data else []) ++ payloadFor k fs

/-- the chunks addressed to stream `k` in a frame sequence, in order -/
def payloadChunks (k : Nat) : List Frame → List Bytes
  | [] => []
  | f :: fs => if f.cmd = .push ∧ f.sid = k then f.data :: payloadChunks k fs else payloadChunks k fs

/-- frames that do not open, close or replace stream `k` and do not end the session -/
def keeps (k : Nat) (fs : List Frame) : Prop :=
  ∀ f ∈ fs, quietCmd f.cmd = true ∧ (f.sid = k → f.cmd = .push ∨ f.cmd = .synAck ∨ f.cmd = .waste
    ∨ f.cmd = .heartResponse ∨ f.cmd = .serverSettings ∨ f.cmd = .updatePaddingScheme)

/-- the reader state of the stream registered under id `k` -/
def rdOf (s : Sess) (k : Nat) : Option RState :=
  ((tblGet s.recv k).bind (fun h => s.objs[h]?)).map (·.rd)

theorem rdOf_other (s : Sess) (f : Frame) (hwf : s.WF) (hq : quietCmd f.cmd = true) (k : Nat)
    (hk : k ≠ f.sid) : rdOf (s.handleFrame f).1 k = rdOf s k :=
  congrArg (Option.map Obj.rd) (Prod.mk.inj (C02.no_crosstalk s f hwf hq k hk)).1

theorem rdOf_push (s : Sess) (f : Frame) (hc : f.cmd = .push) :
    rdOf (s.handleFrame f).1 f.sid = (rdOf s f.sid).map (·.push f.data) := by
  rw [handleFrame_push_eq s f hc, rdOf, modAt_recvObj, rdOf]
  cases hr : tblGet s.recv f.sid with
  | none => rfl
  | some h => simp only [Option.bind_some, if_true, Option.map_map]; rfl

theorem rdOf_own_inert (s : Sess) (f : Frame)
    (hc : f.cmd = .synAck ∨ f.cmd = .waste ∨ f.cmd = .heartResponse ∨ f.cmd = .serverSettings
      ∨ f.cmd = .updatePaddingScheme) (k : Nat) :
    rdOf (s.handleFrame f).1 k = rdOf s k := by
  rcases hc with hc | hc
  · -- synAck: only the pending-open slot of the addressed stream may change
    rw [handleFrame_synAck_eq s f hc]
    split
    · rw [rdOf, modAt_recvObj, rdOf]
      cases tblGet s.recv k with
      | none => rfl
      | some h => simp only [Option.bind_some, Option.map_map]; congr 1; funext o; split <;> simp
    · rfl
  · rw [handleFrame_session_eq s f hc]; rfl

/-- T1.4b `stream_delivery` (receive side of the pipe): for every frame sequence that keeps
stream `k` registered — data for `k` interleaved in any way with frames of any other stream
(opens, data, closes, for known, unknown or finished ids), padding frames and session-level
quiet frames — the reader of `k` receives exactly the payloads addressed to `k`, in order:
nothing lost, duplicated, altered, and nothing from any other stream. -/
theorem stream_delivery (k : Nat) (fs : List Frame) : ∀ (s : Sess), s.WF → keeps k fs →
    (s.handleFrames fs).2 = .continue ∧ (s.handleFrames fs).1.WF ∧
    rdOf (s.handleFrames fs).1 k = (rdOf s k).map (fun r => (payloadChunks k fs).foldl RState.push r) := by
  induction fs with
  | nil => intro s hwf _; refine ⟨rfl, hwf, ?_⟩; simp [Sess.handleFrames, payloadChunks]
  | cons f fs ih =>
    intro s hwf hk
    obtain ⟨⟨hq, hown⟩, hk⟩ := List.forall_mem_cons.mp hk
    rw [handleFrames_cons_quiet s f fs hq]
    obtain ⟨a, b, c⟩ := ih _ ((handleFrame_quiet_local s f hq hwf).wf hwf) hk
    refine ⟨a, b, ?_⟩
    rw [c, payloadChunks]
    split
    · rename_i hp
      obtain ⟨hc, rfl⟩ := hp
      rw [rdOf_push s f hc, Option.map_map]; rfl
    · rename_i hp
      have : rdOf (s.handleFrame f).1 k = rdOf s k := by
        by_cases hsid : f.sid = k
        · rcases hown hsid with hc | hc
          · exact absurd ⟨hc, hsid⟩ hp
          · exact rdOf_own_inert s f hc k
        · exact rdOf_other s f hwf hq k (fun e => hsid e.symm)
      rw [this]

/-- T1.4 `pipe_lossless` (byte level, any fragmentation): let the transport deliver, in *any*
fragmentation, a byte string that is the encoding of a frame sequence `fs` keeping stream `k`
registered (data frames for `k` of any sizes — as produced by `pieces` for chunks of any
size —, padding frames inserted anywhere, frames of other streams in any order).  Then the
receive loop ends with the reader of `k` able to deliver exactly its old content followed by
the concatenation of the payloads addressed to `k`.  With T1.1/T1.2 (every read history
delivers a prefix, and in the end all, of what is deliverable) this is the property. -/
theorem pipe_lossless (k : Nat) (fs : List Frame) (hwfF : ∀ f ∈ fs, C03.WF f)
    (chunks : List Bytes) (bs : Bytes) (henc : C03.encodeAll fs = some bs) (hfrag : flatten chunks = bs)
    (s : Sess) (hwf : s.WF) (hk : keeps k fs) (r : RState) (hr : rdOf s k = some r) (hopen : r.chanOpen = true) :
    let (frames, rest) := feedAll [] chunks
    frames = fs ∧ rest = [] ∧
    ∃ r', rdOf (s.handleFrames frames).1 k = some r' ∧
      r'.pending = r.pending ++ flatten (payloadChunks k fs) ∧ r'.chanOpen = true := by
  obtain ⟨bs', hbs', hdec⟩ := C03.decodeAll_encodeAll fs hwfF [] rfl
  obtain rfl := Option.some.inj (henc.symm.trans hbs')
  rw [C03.feed_chunking, hfrag, ← List.append_nil bs, hdec]
  refine ⟨rfl, rfl, ?_⟩
  rw [(stream_delivery k fs s hwf hk).2.2, hr]
  exact ⟨_, rfl, foldl_push (payloadChunks k fs) r hopen⟩

/-- non-vacuity: a concrete server state with stream 5 registered satisfies the hypotheses -/
example : rdOf C02.exS 5 = some {} ∧ ({} : RState).chanOpen = true := by decide
example : keeps 5 [{ cmd := .push, sid := 5, data := [1] }, { cmd := .fin, sid := 3, data := [] },
    { cmd := .waste, sid := 0, data := [0, 0] }] := by
  intro f hf
  simp only [List.mem_cons, List.mem_nil_iff, or_false] at hf
  rcases hf with h | h | h <;> subst h <;> simp [quietCmd]

/-- T1.7 `data_finds_new_stream` (interleaving model M13): the step that submits a stream's SYN has
registered its inbound queue, so data that arrives at ANY later moment — also while the opener is
still inside the SYN write — is queued for its reader (`rdOf_push`), never dropped as "unknown stream". -/
theorem data_finds_new_stream (cs cs' : CS) (t : Nat) (hpc : (cs.task t).pc = .openChecked) (hm : micro cs t = some cs') :
    tblGet cs'.s.streams cs.s.nextSid = some cs.s.objs.length ∧ tblGet cs'.s.recv cs.s.nextSid = some cs.s.objs.length ∧
    (cs'.task t).submitted = (cs.task t).submitted ++ [synBytes cs.s.nextSid] :=
  C10.answer_finds_pending_open cs cs' t hpc hm

/-! ### the relay loops around a stream (M14): server ↔ target, SOCKS5 / HTTP front-end ↔ application

`Gen.relaySites` is regenerated from `handler.rs`, `socks5.rs` and `http_proxy.rs` on every run: for each
`loop { n = source.read(&mut buf); sink.<hand-over>(<slice>) }` the hand-over call and the slice it is given.
The first theorem is the proof obligation the code has to meet (it stops checking when a loop switches to
a single `write` or forwards another part of the buffer); the other two say what the obligation buys, for
every sequence of reads, every prior buffer content and every behaviour of the sink (any per-call capacities,
failure at any point). -/

theorem relay_sites_sound : ∀ s ∈ Gen.relaySites, Relay.sound s = true := by decide

theorem relay_sites_all_found : Gen.relaySites.length = 6 := by decide

/-- at every moment the sink of every relay loop of the code has received a prefix of what its source produced -/
theorem every_relay_loop_prefix (s : Gen.RelaySite) (hs : s ∈ Gen.relaySites) (reads : List Bytes) (buf : Bytes)
    (caps : List Nat) : (Relay.run s.write s.slice buf reads caps).delivered <+: flatten reads :=
  (Relay.run_sound s (relay_sites_sound s hs) reads buf caps).1

/-- ... and when the loop ends because its source ended, the sink has received all of it, in order, once -/
theorem every_relay_loop_complete (s : Gen.RelaySite) (hs : s ∈ Gen.relaySites) (reads : List Bytes) (buf : Bytes)
    (caps : List Nat) (hdone : (Relay.run s.write s.slice buf reads caps).sourceDone = true) :
    (Relay.run s.write s.slice buf reads caps).delivered = flatten reads :=
  (Relay.run_sound s (relay_sites_sound s hs) reads buf caps).2 hdone

/-- the loop does end that way whenever the sink keeps taking at least one byte per call (non-vacuity of `hdone`) -/
example : (Relay.run .writeAll .prefixN [] [[1, 2, 3], [4, 5]] [2, 9, 1, 1]).sourceDone = true := by decide

/-- the two shapes the obligation excludes do lose or invent bytes (so the obligation is not idle) -/
theorem single_write_loses_bytes :
    (Relay.run .writeOnce .prefixN [] [[1, 2, 3], [4]] [2, 5]).delivered ≠ flatten [[1, 2, 3], [4]] := by
  rw [Relay.writeOnce_loses]; decide

theorem whole_buffer_invents_bytes :
    (Relay.run .writeAll .whole [9, 9, 9] [[1, 2, 3], [4]] [8, 8]).delivered ≠ flatten [[1, 2, 3], [4]] := by
  rw [Relay.whole_buffer_duplicates]; decide

/-- T1.8 `abandoned_read_consumes_nothing`: a read that cannot complete yet leaves the reader exactly as it was — so a
caller that abandons it (a timeout, a losing `select!` branch) and reads again later, with whatever buffer size, loses
nothing.  (What the `AsyncRead` side of a `Stream` must preserve; the `dest aread` cases compare it with the code.) -/
theorem abandoned_read_consumes_nothing (r : RState) (n : Nat) (h : (r.read n).1 = .block) : (r.read n).2 = r := by
  revert h
  fun_cases RState.read r n <;> intro h
  · cases h
  · cases h
  · rfl
  · rename_i hne _; exact absurd h hne

end AnyTLS.C01
