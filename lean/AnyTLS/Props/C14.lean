/-
C14 — the liveness monitor closes dead sessions and only dead sessions.
Model: `Model/Heartbeat.lean`; the theorems here are instances of the lemmas in `Lemmas/Heartbeat.lean`.
-/
import AnyTLS.Lemmas.Heartbeat

namespace AnyTLS.C14
open AnyTLS

/-- Gen obligation: the heartbeat interval is the pool's check interval and the heartbeat
timeout is the pool's idle timeout (`create_new_session`); the command line accepts every
positive pair, so the theorems quantify over all `I > 0`, `T > 0`. -/
theorem gen_mapping : Gen.hbIntervalFrom = "check_interval" ∧ Gen.hbTimeoutFrom = "idle_timeout" ∧
    Gen.cliAcceptsEveryPositive = true := ⟨rfl, rfl, rfl⟩

/-- correspondence support: an instant that is neither a tick, nor an arrival, nor at/after the
deadline of the pending request changes nothing (the driver skips such instants) -/
theorem idle_instant_noop (I T : Nat) (r : Nat → Option Nat) (t : Nat) (st : HB)
    (ht : (t % I == 0) = false) (ha : arrivesAt I r t = false)
    (hd : ∀ s, st.pending = some s → t < s + T) : instant I T r st t = st := by
  obtain ⟨p, c⟩ := st
  cases c with
  | some c => exact Heartbeat.instant_closed rfl
  | none =>
    cases p with
    | none => simp only [instant, ht, ha, Bool.false_eq_true, if_false]
    | some s => rw [Heartbeat.instant_mark rfl ha (.inl rfl), if_neg (Nat.not_le.mpr (hd s rfl))]

theorem idle_none (I T : Nat) (r : Nat → Option Nat) (t : Nat) (st : HB)
    (hc : st.closedAt = none) (hp : st.pending = none) (ht : (t % I == 0) = false) (ha : arrivesAt I r t = false) :
    instant I T r st t = st :=
  idle_instant_noop I T r t st ht ha (fun s hs => by rw [hp] at hs; cases hs)

theorem idle_run (I T : Nat) (r : Nat → Option Nat) (t0 : Nat)
    (hc : (hbRun I T r t0).closedAt = none) (hp : (hbRun I T r t0).pending = none) :
    ∀ n, (∀ t, t0 ≤ t → t < t0 + n → (t % I == 0) = false ∧ arrivesAt I r t = false) →
      hbRun I T r (t0 + n) = hbRun I T r t0 := by
  intro n
  induction n with
  | zero => exact fun _ => rfl
  | succ n ih =>
    intro h
    have ⟨ht, ha⟩ := h (t0 + n) (Nat.le_add_right ..) (Nat.lt_succ_self _)
    show instant I T r (hbRun I T r (t0 + n)) (t0 + n) = hbRun I T r t0
    rw [ih fun t h1 h2 => h t h1 (Nat.lt_succ_of_lt h2)]
    exact idle_none I T r (t0 + n) _ hc hp ht ha

/-- T14.1 `healthy_never_closed`: for every interval/timeout pair (every positive pair the
command line accepts — including timeout < interval and timeout = interval) and every
sequence of answer delays below the timeout (arbitrary jitter), a session whose peer keeps
answering is never closed by the liveness monitor. -/
theorem healthy_never_closed (I T : Nat) (r : Nat → Option Nat) (hI : 0 < I)
    (hr : ∀ k, ∃ d, r k = some d ∧ d < T) : ∀ t, (hbRun I T r t).closedAt = none := by
  intro t
  cases h : (hbRun I T r t).closedAt with
  | none => rfl
  | some c =>
    obtain ⟨s, ⟨_, k, _, hk⟩, hT⟩ := Heartbeat.closed_only_dead hI h
    obtain ⟨d, hd, hlt⟩ := hr k
    have := hk d hd
    omega

/-- a pending mark with no answer coming is acted on at its deadline: if after instant `t0 - 1`
the session is open with pending mark `s`, and nothing arrives from `t0` on, the session is
closed at instant `max t0 (s + T)` -/
theorem pending_leads_to_close (I T : Nat) (r : Nat → Option Nat) (t0 s : Nat)
    (hst : (hbRun I T r t0).closedAt = none) (hp : (hbRun I T r t0).pending = some s)
    (hsil : ∀ t, t0 ≤ t → arrivesAt I r t = false) :
    ∀ n, (hbRun I T r (t0 + n)).closedAt = none →
      (hbRun I T r (t0 + n)).pending = some s ∧ t0 + n ≤ max t0 (s + T) := by
  intro n hopen
  rw [Heartbeat.pending_run hst hp hsil n] at hopen ⊢
  by_cases h : t0 + n ≤ max t0 (s + T)
  · exact ⟨rfl, h⟩
  · rw [if_neg h] at hopen; cases hopen

/-- T14.2a `silent_detected` (pending case): with a request outstanding since `s` and nothing
ever arriving again, the session is closed no later than `s + T` (or at once if that instant
has passed). -/
theorem silent_detected_pending (I T : Nat) (r : Nat → Option Nat) (t0 s : Nat)
    (hst : (hbRun I T r t0).closedAt = none) (hp : (hbRun I T r t0).pending = some s)
    (hsil : ∀ t, t0 ≤ t → arrivesAt I r t = false) :
    ∃ c, (hbRun I T r (max t0 (s + T) + 1)).closedAt = some c := by
  obtain ⟨n, hn⟩ : ∃ n, max t0 (s + T) + 1 = t0 + n :=
    Nat.exists_eq_add_of_le (Nat.le_succ_of_le (Nat.le_max_left ..))
  exact ⟨_, by rw [hn, Heartbeat.pending_run hst hp hsil n, if_neg (hn ▸ Nat.not_succ_le_self _)]⟩

/-- T14.2 `silent_detected`: if nothing arrives from instant `a + 1` on, the session is closed by
`a + I + T + 1`: within one interval plus the timeout.  (`hc`, `hp`, `hT` describe the case the
property speaks of, an answer at `a` leaving an open session with nothing pending; the bound holds without
them.) -/
theorem silent_detected (I T : Nat) (r : Nat → Option Nat) (a : Nat) (hI : 0 < I) (hT : 0 < T)
    (hc : (hbRun I T r (a + 1)).closedAt = none) (hp : (hbRun I T r (a + 1)).pending = none)
    (hsil : ∀ t, a + 1 ≤ t → arrivesAt I r t = false) :
    ∃ c, (hbRun I T r (a + I + T + 1)).closedAt = some c := by
  rw [Nat.add_right_comm _ T 1, Nat.add_right_comm a I 1]
  exact Heartbeat.silent_closes hI (a + 1) hsil

/-- refutations for the *pinned* rule (age of the last response, checked at ticks): with
timeout < interval a peer answering instantly is declared dead at the second tick; with
timeout ≥ interval, jitter below the timeout is enough (I = 2 s, T = 3 s, answers after 0 s
and 2.9 s: at the tick at 4 s the last response is 4 s old).  Both were replayed on the real
session before the repair (hb group: `healthy_session_closed`). -/
theorem pinned_refuted_T_lt_I : pinnedClosesAtTick 10000 3000 0 1 = true := by decide
theorem pinned_refuted_jitter : pinnedClosesAtTick 2000 3000 0 2 = true := by decide

/-- non-vacuity: I = 20, T = 10 (timeout < interval), answers after 3 ms: open after 100 ms;
a peer that never answers is closed at T -/
example : (hbRun 20 10 (fun _ => some 3) 45).closedAt = none := by decide +kernel
example : (hbRun 20 10 (fun _ => none) 45).closedAt = some 10 := by decide +kernel

end AnyTLS.C14
