/-
M13, the interleaving model: what is reachable (`Step`, `Reach`) and the invariant of every reachable state (`Inv`).
-/
import AnyTLS.Lemmas.Conc.Wire
import AnyTLS.Lemmas.Conc.Cost

namespace AnyTLS

/-! ### inbound frames -/

open Gen in

/-- inbound commands whose handling leaves `Sess.core` alone (`handleFrame_inert`): they change stream objects, tables and
the counters of the receive side (`heartResponses`, `peerVersion`), and write nothing.  These are the `quietCmd`s without
`updatePaddingScheme`, which changes `scheme`. -/
def inertCmd : Cmd → Bool
  | .push | .syn | .synAck | .fin | .waste | .heartResponse | .serverSettings => true
  | _ => false

/-- the part of the session the write / close paths and their invariants look at -/
def Sess.core (s : Sess) : List Bytes × Bytes × Bool × Bool × Scheme × Bool × Nat × UInt64 × Option Nat × Bool :=
  (s.wire, s.buffer, s.closed, s.shut, s.scheme, s.buffering, s.pktCounter, s.rng, s.wrBudget, s.sendPadding)

theorem modObj_core (s : Sess) (h : Nat) (f : Obj → Obj) : (s.modObj h f).core = s.core := by
  unfold Sess.modObj; rfl

theorem handleFrame_inert (s : Sess) (f : Frame) (hq : inertCmd f.cmd = true) : (s.handleFrame f).1.core = s.core := by
  rcases cmd_cases f.cmd with hc | hc | hc
  · rw [handleFrame_stream_eq s f hc]; rfl
  · rcases hc with hc | hc | hc | hc
    · unfold Sess.handleFrame; simp only [hc]
    · unfold Sess.handleFrame; simp only [hc]; rfl
    · unfold Sess.handleFrame; simp only [hc]
      split
      · split <;> rfl
      · rfl
    · rw [hc] at hq; cases hq
  · rcases hc with hc | hc | hc <;> (rw [hc] at hq; cases hq)

/-- `handleFrame_inert`, for the fields that are asked about -/
theorem recv_core (s : Sess) (f : Frame) (hq : inertCmd f.cmd = true) :
    (s.handleFrame f).1.wire = s.wire ∧ (s.handleFrame f).1.buffer = s.buffer ∧ (s.handleFrame f).1.closed = s.closed ∧
    (s.handleFrame f).1.shut = s.shut ∧ (s.handleFrame f).1.scheme = s.scheme := by
  have h := handleFrame_inert s f hq
  simp only [Sess.core, Prod.mk.injEq] at h
  exact ⟨h.1, h.2.1, h.2.2.1, h.2.2.2.1, h.2.2.2.2.1⟩

/-! ### reachability -/

/-- What can happen to a state of the interleaving model.  Only `act` is a task's own doing; the other three are the
environment, which may step in between any two actions: the application (`spawn`), the transport (`env`), the peer
(`recv`). -/
inductive Step : CS → CS → Prop where
  /-- task `t` takes one atomic action -/
  | act (cs cs' : CS) (t : Nat) : micro cs t = some cs' → Step cs cs'
  /-- a new task appears (the application spawns one; the receive loop reacts to EOF / an error / an Alert) -/
  | spawn (cs : CS) (k : Task) : k.pc = .idle → k.submitted = [] → k.sids = [] → Step cs (cs.spawn k)
  /-- the transport changes its mind about accepting writes -/
  | env (cs : CS) (b : Option Nat) : Step cs { cs with s := { cs.s with wrBudget := b } }
  /-- the receive loop handles an inbound frame that needs no write and does not end the session
  (data, SYN, SYNACK, FIN, padding, keep-alive answer, server settings): at any moment, without taking
  the locks of the write path, and without touching what the write path reads (`Sess.core`) -/
  | recv (cs : CS) (f : Frame) : inertCmd f.cmd = true → Step cs { cs with s := (cs.s.handleFrame f).1 }

inductive Reach (c0 : CS) : CS → Prop where
  | refl : Reach c0 c0
  | step {cs cs' : CS} : Reach c0 cs → Step cs cs' → Reach c0 cs'

/-! ### the invariant of reachable states -/

theorem WInv_spawn (cs : CS) (k : Task) (h : WInv cs) (hk : k.pc = .idle) (hfresh : cs.bufHolder ≠ some cs.n) : WInv (cs.spawn k) := by
  -- as far as `WInv` sees, a spawn puts `k`, with nothing in flight, where a task that does not hold the lock was
  have q : Quiet cs (cs.put cs.n k) := (Quiet.rfl' cs).put rfl (by rw [hk, inflight_nonholder h.excl hfresh]; rfl)
  have hE : Excl (cs.put cs.n k) := fun u hu => by
    rw [put_task] at hu; split at hu
    · rw [hk] at hu; cases hu
    · exact h.excl u hu
  have w := WInv_quiet h hE q
  exact ⟨hE, w.eq, w.fail, w.pre⟩

theorem WInv_env (cs : CS) (b : Option Nat) (h : WInv cs) : WInv { cs with s := { cs.s with wrBudget := b } } :=
  ⟨h.excl, h.eq, h.fail, h.pre⟩

/-- what holds in every reachable state (`Inv.step`; `C11.inv_reach`) -/
structure Inv (cs : CS) : Prop where
  lock : LockInv cs
  wire : WInv cs
  order : OrdInv cs
  ids : IdInv cs
  syn : SynInv cs

theorem Inv.step {cs cs' : CS} (h : Inv cs) (st : Step cs cs') : Inv cs' := by
  cases st with
  | act _ t hm => exact ⟨LockInv_micro h.lock hm, WInv_micro h.wire h.lock hm, OrdInv_micro h.order hm, IdInv_micro h.ids hm, SynInv_micro h.syn hm⟩
  | spawn k hk hs hsid =>
    -- a spawn is a step of the unused id `cs.n`: from `fin`, with nothing submitted, to `k`; `cs.spawn k` is `cs.put cs.n k`
    -- but for the field `n`, which only `IdInv` reads
    obtain ⟨hun, hsub⟩ := h.ids.unused cs.n (Nat.le_refl _)
    have hfresh : cs.bufHolder ≠ some cs.n := fun e => by have := (h.lock.bh cs.n).mp e; rw [hun] at this; cases this
    have hso : SameOthers cs.n cs (cs.spawn k) := (SameOthers.rfl' _ cs).put k
    have hkn : (cs.spawn k).task cs.n = k := if_pos rfl
    refine ⟨((h.lock.keep hun (by rw [hk]; rfl)).of_eq (fun _ => rfl) rfl : LockInv (cs.spawn k)), WInv_spawn cs k h.wire hk hfresh,
      ord_keep [] h.order hso (hcl := id) (hlog := rfl) (hsub := by rw [hkn, hs, hsub]; rfl)
        (hpend := fun _ => by rw [hkn, hk, hun]; rfl) (hac := fun e => by rw [hkn, hk] at e; cases e),
      ⟨fun u hu => ?_, fun x hx t ht => Nat.lt_succ_of_lt (h.ids.owners x hx t ht)⟩, fun u sid hu => ?_⟩
    · rw [spawn_task, if_neg (by have : cs.n + 1 ≤ u := hu; omega)]
      exact h.ids.unused u (Nat.le_of_succ_le hu)
    · rw [spawn_task] at hu ⊢
      split
      · rename_i e; rw [if_pos e, hsid] at hu; cases hu
      · rename_i e; rw [if_neg e] at hu; exact h.syn u sid hu
  | env b =>
    exact ⟨h.lock.of_eq (fun _ => rfl) rfl, WInv_env cs b h.wire, ⟨h.order.pre, h.order.eq, h.order.ac⟩, ⟨h.ids.unused, h.ids.owners⟩, h.syn⟩
  | recv f hq =>
    obtain ⟨c1, c2, c3, _⟩ := recv_core cs.s f hq
    exact ⟨h.lock.of_eq (fun _ => rfl) rfl, WInv_quiet h.wire h.wire.excl (.base (by rw [c1, c2]) fun hc => by rw [c3]; exact hc),
      ⟨h.order.pre, fun hc => h.order.eq (c3 ▸ hc), fun t ht => c3 ▸ h.order.ac t ht⟩, ⟨h.ids.unused, h.ids.owners⟩, h.syn⟩

end AnyTLS
