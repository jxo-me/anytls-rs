/-
Lemmas about M1 (`Model/Frame.lean`): the big-endian fields read back; `decodeStep_some` and its corollaries;
`decodeAll` without its fuel (`decodeAll_of_none`, `decodeAll_of_some`, `decodeAll_induct`), from which
splitting, residue, accounting and chunking independence (`feedAll_eq`) follow.
-/
import AnyTLS.Model.Frame

namespace AnyTLS
open Gen

theorem rd16_ofNat_mod (n : Nat) : rd16 (.ofNat (n / 256 % 256)) (.ofNat (n % 256)) = n % 65536 := by
  rw [rd16, UInt8.toNat_ofNat', UInt8.toNat_ofNat', Nat.mod_mod, Nat.mod_mod,
    show 65536 = 256 * 256 from rfl, Nat.mod_mul, Nat.add_comm, Nat.mul_comm]

theorem rd16_ofNat (n : Nat) (h : n < 65536) : rd16 (.ofNat (n / 256 % 256)) (.ofNat (n % 256)) = n :=
  (rd16_ofNat_mod n).trans (Nat.mod_eq_of_lt h)

/-- a `u32` is two `u16` halves -/
theorem rd32_eq (a b c d : UInt8) : rd32 a b c d = rd16 a b * 65536 + rd16 c d := by
  rw [rd32, rd16, rd16, Nat.add_mul, Nat.mul_assoc, Nat.add_assoc, Nat.add_assoc]

theorem rd32_ofNat (n : Nat) (h : n < 4294967296) :
    rd32 (.ofNat (n / 16777216 % 256)) (.ofNat (n / 65536 % 256)) (.ofNat (n / 256 % 256)) (.ofNat (n % 256)) = n := by
  have h1 := rd16_ofNat (n / 65536) (Nat.div_lt_of_lt_mul h)
  rw [Nat.div_div_eq_div_mul] at h1
  rw [rd32_eq, h1, rd16_ofNat_mod, Nat.div_add_mod']

theorem be16_length (n : Nat) : (be16 n).length = 2 := rfl
theorem be32_length (n : Nat) : (be32 n).length = 4 := rfl
theorem header_length (c s l : Nat) : (header c s l).length = 7 := rfl

theorem toByte_ofByte_or_waste (n : Nat) : Cmd.ofByte n = .waste ∨ (Cmd.ofByte n).toByte = n := by
  unfold Cmd.ofByte
  split <;> first | exact .inl rfl | exact .inr rfl

theorem Gen.Cmd.mem_all (c : Cmd) : c ∈ Cmd.all := by cases c <;> decide

/-- what a decoder sees of a header in front of its data: the seven bytes, and the length field (`C03.lenField`) -/
theorem header_append (c sid len : Nat) (data : Bytes) :
    (header c sid len ++ data).length = 7 + data.length ∧ (header c sid len ++ data).drop 7 = data ∧
    rd16 ((header c sid len ++ data).getD 5 0) ((header c sid len ++ data).getD 6 0) = len % 65536 :=
    ⟨by rw [List.length_append, header_length], List.drop_left' (header_length ..), rd16_ofNat_mod len⟩

theorem decodeStep_header (c sid : Nat) (data rest : Bytes)
    (hc : c < 256) (hs : sid < 4294967296) (hl : data.length < 65536) :
    decodeStep (header c sid data.length ++ data ++ rest)
      = some ({ cmd := Cmd.ofByte c, sid := sid, data := data }, rest) := by
  simp only [header, be32, be16, List.cons_append, List.nil_append, decodeStep, rd16_ofNat _ hl,
    rd32_ofNat _ hs, UInt8.toNat_ofNat_of_lt' hc]
  simp

/-- what a successful decode says about its buffer -/
theorem decodeStep_some {b : Bytes} {f : Frame} {r : Bytes} (h : decodeStep b = some (f, r)) :
    ∃ c s0 s1 s2 s3 l0 l1 rest, b = c :: s0 :: s1 :: s2 :: s3 :: l0 :: l1 :: rest ∧
      rd16 l0 l1 ≤ rest.length ∧ r = rest.drop (rd16 l0 l1) ∧
      f = { cmd := Cmd.ofByte c.toNat, sid := rd32 s0 s1 s2 s3, data := rest.take (rd16 l0 l1) } := by
  revert h
  fun_cases decodeStep b <;> intro h <;> cases h
  exact ⟨_, _, _, _, _, _, _, _, rfl, Nat.le_of_not_lt ‹_›, rfl, rfl⟩

theorem decodeStep_some_length {b : Bytes} {f : Frame} {r : Bytes}
    (h : decodeStep b = some (f, r)) : b.length = 7 + f.data.length + r.length := by
  obtain ⟨c, s0, s1, s2, s3, l0, l1, rest, rfl, hle, rfl, rfl⟩ := decodeStep_some h
  simp only [List.length_cons, List.length_take, List.length_drop]
  omega

theorem decodeStep_some_eq {b : Bytes} {f : Frame} {r : Bytes}
    (h : decodeStep b = some (f, r)) :
    f.data = (b.drop 7).take f.data.length ∧ r = b.drop (7 + f.data.length) := by
  obtain ⟨c, s0, s1, s2, s3, l0, l1, rest, rfl, hle, rfl, rfl⟩ := decodeStep_some h
  have : (rest.take (rd16 l0 l1)).length = rd16 l0 l1 := List.length_take_of_le hle
  simp only [this, Nat.add_comm 7, List.drop_succ_cons, List.drop_zero, and_self]

theorem decodeStep_append {a : Bytes} {f : Frame} {r : Bytes} (b : Bytes)
    (h : decodeStep a = some (f, r)) : decodeStep (a ++ b) = some (f, r ++ b) := by
  obtain ⟨c, s0, s1, s2, s3, l0, l1, rest, rfl, hle, rfl, rfl⟩ := decodeStep_some h
  have : ¬ (rest ++ b).length < rd16 l0 l1 := by rw [List.length_append]; omega
  simp only [List.cons_append, decodeStep, this, if_false]
  rw [List.take_append_of_le_length hle, List.drop_append_of_le_length hle]

theorem decodeFuel_enough (n m : Nat) (b : Bytes) (hn : b.length ≤ n) (hm : b.length ≤ m) :
    decodeFuel n b = decodeFuel m b := by
  fun_induction decodeFuel n b generalizing m with
  | case1 b =>
    rw [List.eq_nil_of_length_eq_zero (Nat.le_zero.mp hn)]
    cases m <;> rfl
  | case2 n b hd => cases m <;> simp only [decodeFuel, hd]
  | case3 n b f r hd fs r' hr ih =>
    have hl := decodeStep_some_length hd
    cases m with
    | zero => omega
    | succ m => simp only [decodeFuel, hd]; rw [← ih m (by omega) (by omega), hr]

theorem decodeAll_unfold (b : Bytes) :
    decodeAll b = match decodeStep b with
      | none => ([], b)
      | some (f, r) => (f :: (decodeAll r).1, (decodeAll r).2) := by
  rw [decodeAll, decodeFuel_enough _ (b.length + 1) b (Nat.le_refl _) (Nat.le_succ _), decodeFuel]
  cases hd : decodeStep b with
  | none => rfl
  | some p =>
    have hl := decodeStep_some_length hd
    simp only
    rw [decodeFuel_enough _ p.2.length p.2 (by omega) (Nat.le_refl _)]
    rfl

theorem decodeAll_of_none {b : Bytes} (h : decodeStep b = none) : decodeAll b = ([], b) := by
  rw [decodeAll_unfold, h]

theorem decodeAll_of_some {b : Bytes} {f : Frame} {r : Bytes} (h : decodeStep b = some (f, r)) :
    decodeAll b = (f :: (decodeAll r).1, (decodeAll r).2) := by
  rw [decodeAll_unfold, h]

/-- induction along the frames at the front of a buffer -/
theorem decodeAll_induct {P : Bytes → Prop}
    (none : ∀ b, decodeStep b = none → P b)
    (some : ∀ b f r, decodeStep b = some (f, r) → P r → P b) : ∀ b, P b := by
  intro b
  generalize hn : b.length = n
  induction n using Nat.strongRecOn generalizing b with
  | _ n ih =>
    cases hd : decodeStep b with
    | none => exact none b hd
    | some p =>
      have hl := decodeStep_some_length hd
      exact some b p.1 p.2 hd (ih p.2.length (by omega) p.2 rfl)

theorem decodeAll_split (a b : Bytes) :
    decodeAll (a ++ b) =
      ((decodeAll a).1 ++ (decodeAll ((decodeAll a).2 ++ b)).1,
       (decodeAll ((decodeAll a).2 ++ b)).2) := by
  induction a using decodeAll_induct with
  | none a hd => rw [decodeAll_of_none hd]; rfl
  | some a f r hd ih => rw [decodeAll_of_some hd, decodeAll_of_some (decodeStep_append b hd), ih]; rfl

theorem decodeAll_residue (b : Bytes) : decodeStep (decodeAll b).2 = none := by
  induction b using decodeAll_induct with
  | none b hd => rw [decodeAll_of_none hd]; exact hd
  | some b f r hd ih => rw [decodeAll_of_some hd]; exact ih

def frameSize (f : Frame) : Nat := 7 + f.data.length

def sumSizes : List Frame → Nat
  | [] => 0
  | f :: fs => frameSize f + sumSizes fs

theorem decodeAll_account (b : Bytes) :
    sumSizes (decodeAll b).1 + (decodeAll b).2.length = b.length := by
  induction b using decodeAll_induct with
  | none b hd => rw [decodeAll_of_none hd]; simp [sumSizes]
  | some b f r hd ih =>
    have hl := decodeStep_some_length hd
    rw [decodeAll_of_some hd]
    simp only [sumSizes, frameSize]
    omega

theorem sumSizes_ge (fs : List Frame) : 7 * fs.length ≤ sumSizes fs := by
  induction fs with
  | nil => simp [sumSizes]
  | cons f fs ih => simp only [sumSizes, frameSize, List.length_cons]; omega

theorem feedAll_eq (cs : List Bytes) (buf : Bytes) (h : decodeStep buf = none) :
    feedAll buf cs = decodeAll (buf ++ flatten cs) := by
  induction cs generalizing buf with
  | nil => simp [feedAll, decodeAll_of_none h]
  | cons c cs ih =>
    simp only [feedAll, feed, flatten_cons]
    rw [ih _ (decodeAll_residue (buf ++ c)), ← List.append_assoc, decodeAll_split (buf ++ c)]

end AnyTLS
