/-
Lemmas about M4 (`Model/Padding.lean`) and the specification-level notions of C04 / C05 (`Spec.Sane`, `Matches`,
`shapePads`, `Allowed`), which live here because both properties use them; `Lemmas/Conc` needs `shape_flatten` and the length bounds.
-/
import AnyTLS.Model.Padding
import AnyTLS.Lemmas.Frame

namespace AnyTLS

/-- a scheme entry the generator can honour -/
def Spec.Sane : Spec → Prop
  | .check => True
  | .range lo hi => 1 ≤ lo ∧ lo ≤ hi ∧ hi ≤ 65535

theorem parsePart_sane (p : Bytes) (sp : Spec) (h : parsePart p = some sp) : sp.Sane := by
  revert h
  fun_cases parsePart p with
  | case1 => intro h; cases h; trivial
  | case2 => intro h; cases h
  | case3 => intro h; cases h
  | case4 => intro h; cases h
  | case5 _ _ _ _ _ lo hi h1 h2 =>
    -- the only entry with numbers: both bounds have passed `> 0` and `≤ 65535`
    intro h; cases h
    simp only [Bool.or_eq_true, decide_eq_true_eq, not_or, Int.not_le, Int.not_lt] at h1 h2
    simp only [Spec.Sane]
    omega

theorem specs_sane (s : Scheme) (pkt : Nat) : ∀ sp ∈ s.specs pkt, sp.Sane := by
  intro sp hsp
  unfold Scheme.specs at hsp
  split at hsp
  · simp at hsp
  · simp only [List.mem_filterMap] at hsp
    obtain ⟨p, _, hp⟩ := hsp
    exact parsePart_sane p sp hp

/-- positional agreement between a scheme line and resolved sizes: every size lies inside
its entry's range -/
inductive Matches : List Spec → List Sz → Prop
  | nil : Matches [] []
  | check {sp sz} : Matches sp sz → Matches (.check :: sp) (.check :: sz)
  | range {lo hi n sp sz} : lo ≤ n → n ≤ hi → Matches sp sz → Matches (.range lo hi :: sp) (.size n :: sz)

theorem resolve_matches : ∀ (specs : List Spec) (rs : List Nat), (∀ sp ∈ specs, sp.Sane) →
    Matches specs (resolve specs rs) := by
  intro specs rs hs
  fun_induction resolve specs rs with
  | case1 => exact .nil
  | case2 rest rs ih => exact .check (ih (List.forall_mem_cons.mp hs).2)
  | case3 lo hi rest rs h ih | case4 lo hi rest h ih =>
    obtain ⟨⟨_, h2, _⟩, hs⟩ := List.forall_mem_cons.mp hs
    exact .range (Nat.le_refl _) h2 (ih hs)
  | case5 lo hi rest h r rs ih =>
    obtain ⟨⟨_, h2, _⟩, hs⟩ := List.forall_mem_cons.mp hs
    have := Nat.mod_lt r (show hi - lo + 1 > 0 by omega)
    exact .range (by omega) (by omega) (ih hs)

theorem resolve_length : ∀ (specs : List Spec) (rs : List Nat), (resolve specs rs).length = specs.length := by
  intro specs rs
  fun_induction resolve specs rs <;> simp [*]

/-- the lengths of the padding frames `shape` appends, given the remaining payload length -/
def shapePads : List Sz → Nat → List Nat
  | [], _ => []
  | .check :: rest, r => if r = 0 then [] else shapePads rest r
  | .size n :: rest, r =>
    if r > n then shapePads rest (r - n)
    else if r > 0 then (if n - (r + 7) > 0 then [n - (r + 7)] else []) ++ shapePads rest 0
    else n :: shapePads rest 0

theorem length_pos_of_not_isEmpty {b : Bytes} (h : ¬ b.isEmpty = true) : b.length > 0 :=
  Nat.pos_of_ne_zero fun e => h (List.isEmpty_iff_length_eq_zero.mpr e)

theorem shape_flatten : ∀ (sizes : List Sz) (payload : Bytes),
    flatten (shape sizes payload) = payload ++ flatten ((shapePads sizes payload.length).map wasteFrame) := by
  intro sizes payload
  -- the branches of `shape`: after the last entry nothing (1) or something (2) is left; a check mark with nothing (3) or
  -- something (4) left; a size smaller than what is left (5), completing it (6), or with nothing left (7)
  fun_induction shape sizes payload with
  | case1 buf h | case3 rest buf h => simp [shapePads, List.isEmpty_iff.mp h]
  | case2 buf h => simp [shapePads]
  | case4 rest buf h ih =>
    simpa [shapePads, Nat.ne_of_gt (length_pos_of_not_isEmpty h)] using ih
  | case5 n rest buf h ih =>
    simp only [shapePads, h, if_true, flatten_cons, ih, List.length_drop]
    rw [← List.append_assoc, List.take_append_drop]
  | case6 n rest buf h1 h2 pad ih =>
    simp only [shapePads, h1, h2, if_false, if_true, flatten_cons, ih, List.length_nil]
    by_cases h3 : pad > 0 <;> simp [h3, pad, List.append_assoc]
  | case7 n rest buf h1 h2 ih =>
    have : buf = [] := List.eq_nil_of_length_eq_zero (by omega)
    subst this
    simp [shapePads, ih]

theorem shapePads_range (sizes : List Sz) (hs : ∀ sz ∈ sizes, ∀ n, sz = .size n → 1 ≤ n ∧ n ≤ 65535) :
    ∀ (r : Nat), ∀ p ∈ shapePads sizes r, 1 ≤ p ∧ p ≤ 65535 := by
  intro r
  fun_induction shapePads sizes r with
  | case1 | case2 => nofun
  | case3 rest r h ih | case4 n rest r h ih => exact ih (List.forall_mem_cons.mp hs).2
  | case5 n rest r h1 h2 ih =>
    obtain ⟨hn, hs⟩ := List.forall_mem_cons.mp hs
    refine List.forall_mem_append.mpr ⟨?_, ih hs⟩
    split
    · exact List.forall_mem_singleton.mpr (by have := hn n rfl; omega)
    · nofun
  | case6 n rest r h1 h2 ih =>
    obtain ⟨hn, hs⟩ := List.forall_mem_cons.mp hs
    exact List.forall_mem_cons.mpr ⟨hn n rfl, ih hs⟩

theorem matches_range {specs : List Spec} {sizes : List Sz} (hm : Matches specs sizes)
    (hs : ∀ sp ∈ specs, sp.Sane) : ∀ sz ∈ sizes, ∀ n, sz = .size n → 1 ≤ n ∧ n ≤ 65535 := by
  induction hm with
  | nil => nofun
  | check _ ih => exact List.forall_mem_cons.mpr ⟨nofun, ih (List.forall_mem_cons.mp hs).2⟩
  | range h1 h2 _ ih =>
    obtain ⟨⟨_, _, _⟩, hs⟩ := List.forall_mem_cons.mp hs
    exact List.forall_mem_cons.mpr ⟨fun n e => by cases e; omega, ih hs⟩

/-- the statement's acceptor (C05): which transport-write lengths a scheme line permits for a
packet with `remain` payload bytes -/
inductive Allowed : List Spec → Nat → List Nat → Prop
  /-- after the last entry a non-empty remainder is one more write -/
  | nil_rem {r : Nat} : r > 0 → Allowed [] r [r]
  | nil_done : Allowed [] 0 []
  /-- a check mark stops the packet once no payload remains -/
  | check_stop {rest : List Spec} : Allowed (.check :: rest) 0 []
  | check_go {rest : List Spec} {r : Nat} {ws : List Nat} :
      r > 0 → Allowed rest r ws → Allowed (.check :: rest) r ws
  /-- payload-only record: a drawn size -/
  | payload_only {lo hi d r : Nat} {rest : List Spec} {ws : List Nat} :
      lo ≤ d → d ≤ hi → r > d → Allowed rest (r - d) ws → Allowed (.range lo hi :: rest) r (d :: ws)
  /-- payload completed with padding: the drawn size -/
  | completed_pad {lo hi d r : Nat} {rest : List Spec} {ws : List Nat} :
      lo ≤ d → d ≤ hi → 0 < r → r + 7 < d → Allowed rest 0 ws → Allowed (.range lo hi :: rest) r (d :: ws)
  /-- payload completed, gap of at most one frame header: no padding frame fits -/
  | completed_nopad {lo hi d r : Nat} {rest : List Spec} {ws : List Nat} :
      lo ≤ d → d ≤ hi → 0 < r → r ≤ d → d ≤ r + 7 → Allowed rest 0 ws → Allowed (.range lo hi :: rest) r (r :: ws)
  /-- padding-only record: the drawn size plus one frame header -/
  | padding_only {lo hi d : Nat} {rest : List Spec} {ws : List Nat} :
      lo ≤ d → d ≤ hi → Allowed rest 0 ws → Allowed (.range lo hi :: rest) 0 ((d + 7) :: ws)

theorem wasteFrame_length (n : Nat) : (wasteFrame n).length = n + 7 := by
  simp [wasteFrame, header, be32, be16, zeros]

theorem shape_allowed_of_matches {specs : List Spec} {sizes : List Sz} (hm : Matches specs sizes) :
    ∀ (payload : Bytes), Allowed specs payload.length ((shape sizes payload).map List.length) := by
  intro payload
  revert specs
  -- the branches of `shape` as in `shape_flatten`; each is one constructor of `Allowed` (6 is two: padding fits or not)
  fun_induction shape sizes payload with
  | case1 buf h => intro _ hm; cases hm; rw [List.isEmpty_iff.mp h]; exact .nil_done
  | case2 buf h => intro _ hm; cases hm; exact .nil_rem (length_pos_of_not_isEmpty h)
  | case3 rest buf h => intro _ hm; cases hm; rw [List.isEmpty_iff.mp h]; exact .check_stop
  | case4 rest buf h ih => intro _ hm; cases hm with | check hm' => exact .check_go (length_pos_of_not_isEmpty h) (ih hm')
  | case5 n rest buf h ih =>
    intro _ hm
    cases hm with
    | range h1 h2 hm' =>
      have := ih hm'
      rw [List.length_drop] at this
      rw [List.map_cons, List.length_take, Nat.min_eq_left (Nat.le_of_lt h)]
      exact .payload_only h1 h2 h this
  | case6 n rest buf c1 c2 pad =>
    rename_i ih
    intro _ hm
    cases hm with
    | range h1 h2 hm' =>
      rw [List.map_cons]
      by_cases c3 : n - (buf.length + 7) > 0
      · have hlen : (buf ++ wasteFrame (n - (buf.length + 7))).length = n := by
          rw [List.length_append, wasteFrame_length]; omega
        rw [if_pos c3, hlen]
        exact .completed_pad h1 h2 c2 (by omega) (ih hm')
      · rw [if_neg c3]
        exact .completed_nopad h1 h2 c2 (by omega) (by omega) (ih hm')
  | case7 n rest buf c1 c2 ih =>
    intro _ hm
    cases hm with
    | range h1 h2 hm' =>
      have h0 : buf.length = 0 := by omega
      rw [List.map_cons, h0, wasteFrame_length]
      exact .padding_only h1 h2 (ih hm')

theorem mapGet_mem (m : List (Bytes × Bytes)) (k v : Bytes) (h : mapGet m k = some v) : ∃ kv ∈ m, kv.2 = v := by
  revert h
  fun_cases mapGet m k <;> intro h <;> cases h
  exact ⟨_, List.mem_reverse.mp (List.mem_of_find?_eq_some ‹_›), rfl⟩

theorem shape_length_le : ∀ (sizes : List Sz) (buf : Bytes), (shape sizes buf).length ≤ sizes.length + 1 := by
  intro sizes buf
  fun_induction shape sizes buf <;> simp only [List.length_cons, List.length_nil] <;> omega

end AnyTLS
