/-
What the concurrent writers of M13 put on the wire: `WInv` and `OrdInv`.  Here each is kept by every action of a task
(`*_micro`); the other steps (spawn, transport, inbound frame) are in `Inv.step`.
-/
import AnyTLS.Lemmas.Conc.Lock
import AnyTLS.Lemmas.Session

namespace AnyTLS

/-- the bytes a state still has to put on the wire -/
def PC.inflight : PC → Bytes
  | .preWr ps _ | .waitWr ps _ | .piece ps _ => flatten ps
  | _ => []

/-- a task in a state that holds the buffer lock is the recorded holder — so there is one such task at most
(`C11.one_writer`), and all the bytes in flight are its (`inflight_nonholder`) -/
def Excl (cs : CS) : Prop := ∀ t, (cs.task t).pc.holdsBuf = true → cs.bufHolder = some t

theorem LockInv.excl {cs : CS} (h : LockInv cs) : Excl cs := fun t ht => (h.bh t).mpr ht

def enc (log : List Unit') : Bytes := flatten (log.map (·.bytes))

theorem enc_append (a b : List Unit') : enc (a ++ b) = enc a ++ enc b := by
  unfold enc; rw [List.map_append, flatten_append]

def CS.inflight (cs : CS) : Bytes :=
  match cs.bufHolder with
  | some t => (cs.task t).pc.inflight
  | none => []

/-- Where the bytes of the log are.  `eq` accounts for all of them, and can only be asked while no transport write has
failed: a failed write drops its bytes, and they stay in the log.  After a failure (`fail`) nothing is in flight, and the
session is closed — a write starts only in an open session (`Act.prepare`), so it starts with `eq` in hand.  `pre` is the
part of `eq` that survives a failure, so it is kept apart. -/
structure WInv (cs : CS) : Prop where
  excl : Excl cs
  eq : cs.failed = false → flatten cs.s.wire ++ cs.inflight ++ cs.s.buffer = enc cs.log
  fail : cs.failed = true → cs.s.closed = true ∧ ∀ t, (cs.task t).pc.inflight = []
  pre : flatten cs.s.wire <+: enc cs.log

theorem inflight_holdsBuf {pc : PC} (h : pc.inflight ≠ []) : pc.holdsBuf = true := by
  cases pc <;> first | rfl | (exact absurd rfl h)

theorem inflight_nonholder {cs : CS} (h : Excl cs) {t : Nat} (ht : cs.bufHolder ≠ some t) : (cs.task t).pc.inflight = [] :=
  Decidable.byContradiction fun hi => ht (h t (inflight_holdsBuf hi))

theorem inflight_of_holder {cs : CS} {t : Nat} (ht : cs.bufHolder = some t) : cs.inflight = (cs.task t).pc.inflight := by
  unfold CS.inflight; rw [ht]

theorem inflight_grantBuf (pc : PC) : pc.grantBuf.inflight = pc.inflight := by cases pc <;> rfl
theorem inflight_grantWr (pc : PC) : pc.grantWr.inflight = pc.inflight := by cases pc <;> rfl

@[simp] theorem releaseBuf_inflight (cs : CS) (u : Nat) : (cs.releaseBuf.task u).pc.inflight = (cs.task u).pc.inflight := by
  rw [releaseBuf_task]; split
  · exact inflight_grantBuf _
  · rfl
@[simp] theorem releaseWr_inflight (cs : CS) (u : Nat) : (cs.releaseWr.task u).pc.inflight = (cs.task u).pc.inflight := by
  rw [releaseWr_task]; split
  · exact inflight_grantWr _
  · rfl

theorem flatten_snoc (l : List Bytes) (w : Bytes) : flatten (l ++ [w]) = flatten l ++ w := by
  rw [flatten_append]; simp

/-! ### steps that leave the wire, the buffer, the log and the bytes in flight alone -/

/-- The session may get closed, not reopened (`closed`); a task keeps the bytes it has in flight or, what `WInv.fail` also
allows, loses them (`all`). -/
structure Quiet (cs cs' : CS) : Prop where
  wire : cs'.s.wire = cs.s.wire
  buffer : cs'.s.buffer = cs.s.buffer
  log : cs'.log = cs.log
  failed : cs'.failed = cs.failed
  closed : cs.s.closed = true → cs'.s.closed = true
  infl : cs'.inflight = cs.inflight
  all : ∀ t, (cs'.task t).pc.inflight = [] ∨ (cs'.task t).pc.inflight = (cs.task t).pc.inflight

theorem Quiet.rfl' (cs : CS) : Quiet cs cs := ⟨rfl, rfl, rfl, rfl, id, rfl, fun _ => Or.inr rfl⟩

theorem WInv_quiet {cs cs' : CS} (h : WInv cs) (hE : Excl cs') (q : Quiet cs cs') : WInv cs' where
  excl := hE
  eq := fun hf => by rw [q.wire, q.infl, q.buffer, q.log]; exact h.eq (q.failed ▸ hf)
  fail := fun hf => by
    have := h.fail (q.failed ▸ hf)
    refine ⟨q.closed this.1, fun t => ?_⟩
    rcases q.all t with e | e
    · exact e
    · rw [e]; exact this.2 t
  pre := by rw [q.wire, q.log]; exact h.pre

namespace Quiet
variable {cs c : CS} {t : Nat} {k : Task} {pc : PC}

theorem base (e : (c.tasks, c.bufHolder, c.log, c.failed, c.s.wire, c.s.buffer) = (cs.tasks, cs.bufHolder, cs.log, cs.failed, cs.s.wire, cs.s.buffer))
    (hc : cs.s.closed = true → c.s.closed = true) : Quiet cs c := by
  simp only [Prod.mk.injEq] at e
  obtain ⟨e0, e1, e2, e3, e4, e5⟩ := e
  have et : ∀ u, c.task u = cs.task u := fun u => congrFun e0 u
  exact ⟨e4, e5, e2, e3, hc, by unfold CS.inflight; rw [e1]; split <;> simp [et], fun u => Or.inr (by rw [et])⟩

theorem put (q : Quiet cs c) (hpc : (c.task t).pc = pc) (hi : k.pc.inflight = pc.inflight) : Quiet cs (c.put t k) := by
  have e (u : Nat) : ((c.put t k).task u).pc.inflight = (c.task u).pc.inflight := by
    rw [put_task]; split
    · rename_i e; rw [hi, e, hpc]
    · rfl
  refine ⟨q.wire, q.buffer, q.log, q.failed, q.closed, ?_, fun u => by rw [e]; exact q.all u⟩
  rw [← q.infl]; unfold CS.inflight; rw [put_bufHolder]; split
  · exact e _
  · rfl

theorem releaseWr (q : Quiet cs c) : Quiet cs c.releaseWr := by
  refine ⟨by simp [q.wire], by simp [q.buffer], by simp [q.log], by simp [q.failed], by simpa using q.closed, ?_,
    fun u => by rw [releaseWr_inflight]; exact q.all u⟩
  rw [← q.infl]; unfold CS.inflight; rw [releaseWr_bufHolder]; split
  · exact releaseWr_inflight _ _
  · rfl

theorem releaseBuf (q : Quiet cs c) (hE : Excl c) (hpc : (c.task t).pc = pc) (hb : pc.holdsBuf = true) (h0 : pc.inflight = []) :
    Quiet cs c.releaseBuf := by
  have ht : c.bufHolder = some t := hE t (by rw [hpc]; exact hb)
  have h0 : (c.task t).pc.inflight = [] := by rw [hpc]; exact h0
  refine ⟨by simp [q.wire], by simp [q.buffer], by simp [q.log], by simp [q.failed], by simpa using q.closed, ?_,
    fun u => by rw [releaseBuf_inflight]; exact q.all u⟩
  rw [← q.infl, inflight_of_holder ht, h0]
  unfold CS.inflight
  cases hb : c.releaseBuf.bufHolder with
  | none => rfl
  | some w =>
    simp only [releaseBuf_inflight]
    by_cases ew : w = t
    · rw [ew]; exact h0
    · exact inflight_nonholder hE (by rw [ht]; exact fun e => ew (Option.some.inj e).symm)

theorem releaseBuf_put (q : Quiet cs c) (hE : Excl c) (hpc : (c.task t).pc = pc) (hb : pc.holdsBuf = true)
    (h0 : pc.inflight = []) (hi : k.pc.inflight = []) : Quiet cs (c.releaseBuf.put t k) :=
  (q.releaseBuf hE hpc hb h0).put (pc := (c.releaseBuf.task t).pc) rfl (by rw [hi, releaseBuf_inflight, hpc, h0])

theorem releaseWr_put (q : Quiet cs c) (hpc : (c.task t).pc = pc) (hi : k.pc.inflight = pc.inflight) : Quiet cs (c.releaseWr.put t k) :=
  q.releaseWr.put (pc := (c.releaseWr.task t).pc) rfl (by rw [hi, releaseWr_inflight, hpc])

end Quiet

/-- the holder of both locks has written the piece `p`: it moves from the bytes in flight to the wire -/
theorem WInv_piece {cs c : CS} {t : Nat} {p : Bytes} {rest fs : List Bytes} {s' : Sess} (h : WInv cs)
    (hpc : (cs.task t).pc = .piece (p :: rest) fs) (hw : cs.s.transportWrite p = some s')
    (hs : c.s = s') (hlog : c.log = cs.log) (hf : c.failed = cs.failed) (hb : c.bufHolder = cs.bufHolder)
    (hi : (c.task t).pc.inflight = flatten rest) (ho : ∀ u, u ≠ t → (c.task u).pc.inflight = (cs.task u).pc.inflight)
    (hE : Excl c) : WInv c := by
  have ht : cs.bufHolder = some t := h.excl t (by rw [hpc]; rfl)
  obtain ⟨tw, tb, tc, _⟩ := transportWrite_spec hw
  have hinf : cs.inflight = p ++ flatten rest := by rw [inflight_of_holder ht, hpc]; rfl
  refine ⟨hE, fun hff => ?_, fun hff => ?_, ?_⟩
  · rw [inflight_of_holder (hb.trans ht), hi, hs, tw, tb, hlog, flatten_snoc, ← h.eq (hf ▸ hff), hinf]
    simp [List.append_assoc]
  · obtain ⟨hc, hall⟩ := h.fail (hf ▸ hff)
    refine ⟨by rw [hs, tc]; exact hc, fun u => ?_⟩
    by_cases e : u = t
    · have := hall t
      rw [hpc] at this
      rw [e, hi]; exact (List.append_eq_nil_iff.mp this).2
    · rw [ho u e]; exact hall u
  · rw [hs, tw, hlog, flatten_snoc]
    cases hff : cs.failed with
    | false =>
      rw [← h.eq hff, hinf, List.append_assoc, List.append_assoc, ← List.append_assoc (flatten cs.s.wire) p]
      exact List.prefix_append _ _
    | true =>
      have := (h.fail hff).2 t
      rw [hpc] at this
      rw [(List.append_eq_nil_iff.mp this).1, List.append_nil]
      exact h.pre

variable {t : Nat} {cs cs' : CS}

theorem WInv_micro (h : WInv cs) (hl : LockInv cs) (hm : micro cs t = some cs') : WInv cs' := by
  have hE : Excl cs' := (LockInv_micro hl hm).excl
  have q0 := Quiet.rfl' cs
  obtain ⟨c, k, ha, rfl⟩ := micro_act hm
  induction ha with
  -- `Quiet.base`: of the shared state only the session outside wire and buffer, the writer lock or a queue changes;
  -- `t` goes on with the bytes in flight it had
  | done hpc | writeRefused hpc | write hpc | data hpc | dataOwn hpc | openRefused hpc | openChecked hpc | closeAgain hpc
  | nobuf hpc | register hpc | cflag hpc | enterHeld hpc | preWrFree hpc | preWrHeld hpc | cdrainedFree hpc | cdrainedHeld hpc =>
    exact WInv_quiet h hE (.put (.base rfl id) hpc rfl)
  | closeStart hpc => exact WInv_quiet h hE (.put (.base rfl fun _ => rfl) hpc rfl)
  -- the holder of the buffer lock, with nothing in flight, gives it back
  | lockedNil hpc | lockedClosed hpc | wdoneMore hpc | wdoneLast hpc => exact WInv_quiet h hE (q0.releaseBuf_put h.excl hpc rfl rfl rfl)
  -- the writer lock is given back; the bytes in flight stay where they are
  | pieceNil hpc | cshutOp hpc | cshutInWrite hpc => exact WInv_quiet h hE (.releaseWr_put (.base rfl id) hpc rfl)
  | enterFree hpc hfree =>
    -- nothing was in flight (nobody held the lock), and nothing is: the last two fields of `Quiet`, `infl` and `all`
    refine WInv_quiet h hE ⟨rfl, rfl, rfl, rfl, id, ?_, fun u => ?_⟩
    · rw [show cs.inflight = [] by unfold CS.inflight; rw [hfree]]
      unfold CS.inflight; simp [Task.goto, PC.inflight]
    · rw [put_task]; split
      · exact .inl rfl
      · exact .inr rfl
  | @bufferLast b hpc | @bufferMore b _ _ hpc =>
    -- the frame enters the buffer and the log together
    have hc1 : WInv (cs.buffered t b) := by
      refine ⟨h.excl, fun hf => ?_, h.fail, ?_⟩
      · show flatten cs.s.wire ++ cs.inflight ++ (cs.s.buffer ++ b) = enc (cs.log ++ [_])
        rw [enc_append, ← h.eq hf]
        simp [enc, List.append_assoc]
      · show flatten cs.s.wire <+: enc (cs.log ++ [_])
        rw [enc_append]
        exact h.pre.trans (List.prefix_append _ _)
    exact WInv_quiet hc1 hE ((Quiet.rfl' _).releaseBuf_put hc1.excl hpc rfl rfl rfl)
  | @prepare b fs hpc hnc =>
    -- the write starts: buffer and frame become the bytes in flight, padding joins the log
    have ht : cs.bufHolder = some t := h.excl t (by rw [hpc]; rfl)
    have hnf : cs.failed = false := Bool.eq_false_iff.mpr fun hf => by rw [(h.fail hf).1] at hnc; cases hnc
    obtain ⟨pads, hflat, hlog, pw, pb, _⟩ := prepared_spec cs t b
    have heq := h.eq hnf
    rw [inflight_of_holder ht, hpc] at heq
    have hlog : enc (cs.prepared t b).log = enc cs.log ++ b ++ flatten (pads.map wasteFrame) := by
      rw [hlog]
      by_cases hp : flatten (pads.map wasteFrame) = [] <;> simp [hp, enc, flatten_append]
    refine ⟨hE, fun _ => ?_, fun hf => absurd (hnf ▸ hf : false = true) (by simp), ?_⟩
    · rw [inflight_of_holder (cs := CS.put (cs.prepared t b) t _) (t := t) ht, put_self, put_s, put_log, hlog, pw, pb, ← heq]
      simp [Task.goto, PC.inflight, hflat, List.append_assoc]
    · rw [put_s, put_log, hlog, pw, List.append_assoc]
      exact h.pre.trans (List.prefix_append _ _)
  | pieceLast hpc hw =>
    refine WInv_piece h hpc hw (releaseWr_s _) (releaseWr_log _) (releaseWr_failed _) (releaseWr_bufHolder _)
      (by simp [Task.goto, PC.inflight]) (fun u e => ?_) hE
    rw [put_task, if_neg e, releaseWr_inflight]; rfl
  | pieceMore hpc hw =>
    refine WInv_piece h hpc hw rfl rfl rfl rfl (by simp [Task.goto, PC.inflight]) (fun u e => ?_) hE
    rw [put_task, if_neg e]; rfl
  | pieceFailed hpc _ hc | pieceFailedClose hpc _ hc =>
    -- the transport refuses: the rest of the write is dropped, and the session is closed — it was (`pieceFailed`, by `hc`),
    -- or this action closes it (`pieceFailedClose`, where `simp` does not need `hc`)
    have ht : cs.bufHolder = some t := h.excl t (by rw [hpc]; rfl)
    refine ⟨hE, fun hf => (nomatch (releaseWr_failed _).symm.trans hf), fun _ => ⟨by simp [hc], fun u => ?_⟩, by simpa using h.pre⟩
    rw [put_task]; split
    · rfl
    · rename_i e
      rw [releaseWr_inflight]
      exact inflight_nonholder h.excl (by rw [ht]; exact fun e' => e (Option.some.inj e').symm)

/-! ### program order -/

/-- the frames `write_frame` has taken from task `t` (into the buffer or into a packet), in the order of the log -/
def accepted (cs : CS) (t : Nat) : List Bytes := (cs.log.filter (fun u => u.owner == some t)).map (·.bytes)

/-- the frames of the current operation that `write_frame` has not taken yet.  From `preWr` on the head of `fs` is the frame
being written, and that one is in the log already: `.tail` -/
def PC.pending : PC → List Bytes
  | .enter fs | .waitBuf fs | .locked fs => fs
  | .preWr _ fs | .waitWr _ fs | .piece _ fs | .wdone _ fs => fs.tail
  | .cflag (.inWrite fs) | .cdrained (.inWrite fs) | .cwait (.inWrite fs) | .cshut (.inWrite fs) => fs.tail
  | _ => []

/-- states that only exist in a closed session -/
def PC.afterClose : PC → Bool
  | .wdone r _ => r != .ok
  | .cflag _ | .cdrained _ | .cwait _ | .cshut _ => true
  | _ => false

theorem pending_norm (pc : PC) : pc.norm.pending = pc.pending := by
  cases pc <;> first | rfl | (rename_i k; cases k <;> rfl)
theorem afterClose_norm (pc : PC) : pc.norm.afterClose = pc.afterClose := by
  cases pc <;> rfl

/-- Program order: `write_frame` takes the frames of a task in the order in which the task submitted them (`pre`), and while
the session is open it skips none: what is not taken yet is pending (`eq`).  `ac` is what lets a task that closes the
session, or finds it closed, drop its pending frames without breaking `eq`. -/
structure OrdInv (cs : CS) : Prop where
  pre : ∀ t, accepted cs t <+: (cs.task t).submitted
  eq : cs.s.closed = false → ∀ t, (cs.task t).submitted = accepted cs t ++ (cs.task t).pc.pending
  ac : ∀ t, (cs.task t).pc.afterClose = true → cs.s.closed = true

theorem others_pending (hso : SameOthers t cs cs') (u : Nat) (hu : u ≠ t) :
    (cs'.task u).pc.pending = (cs.task u).pc.pending ∧ (cs'.task u).pc.afterClose = (cs.task u).pc.afterClose ∧
    (cs'.task u).submitted = (cs.task u).submitted := by
  obtain ⟨h1, h2, _, _, _⟩ := hso u hu
  refine ⟨?_, ?_, h2⟩
  · rw [← pending_norm, h1, pending_norm]
  · rw [← afterClose_norm, h1, afterClose_norm]

/-- a step of `t` that adds nothing to the log, submits `new` (`[]` for most steps) and does not lose pending frames
while the session is open -/
theorem ord_keep (new : List Bytes) (h : OrdInv cs) (hso : SameOthers t cs cs')
    (hcl : cs.s.closed = true → cs'.s.closed = true) (hlog : cs'.log = cs.log)
    (hsub : (cs'.task t).submitted = (cs.task t).submitted ++ new)
    (hpend : cs'.s.closed = false → (cs'.task t).pc.pending = (cs.task t).pc.pending ++ new)
    (hac : (cs'.task t).pc.afterClose = true → cs'.s.closed = true) : OrdInv cs' := by
  have hacc : ∀ u, accepted cs' u = accepted cs u := fun u => by unfold accepted; rw [hlog]
  refine ⟨fun u => ?_, fun hc u => ?_, fun u hu => ?_⟩
  · rw [hacc]
    by_cases e : u = t
    · subst e; rw [hsub]; exact (h.pre u).trans (List.prefix_append _ _)
    · obtain ⟨_, _, hs⟩ := others_pending hso u e
      rw [hs]; exact h.pre u
  · have hc0 : cs.s.closed = false := Bool.eq_false_iff.mpr fun hcc => by rw [hcl hcc] at hc; cases hc
    rw [hacc]
    by_cases e : u = t
    · subst e; rw [hsub, hpend hc, h.eq hc0 u, List.append_assoc]
    · obtain ⟨hp, _, hs⟩ := others_pending hso u e
      rw [hs, hp]; exact h.eq hc0 u
  · by_cases e : u = t
    · subst e; exact hac hu
    · obtain ⟨_, ha, _⟩ := others_pending hso u e
      rw [ha] at hu; exact hcl (h.ac u hu)

/-- the step at which `write_frame` accepts the head of `t`'s pending frames (the session is open) -/
theorem ord_accept (b : Bytes) (pad : List Unit') (h : OrdInv cs) (hso : SameOthers t cs cs')
    (hlog : cs'.log = cs.log ++ ({ owner := some t, bytes := b } : Unit') :: pad) (hpad : ∀ x ∈ pad, x.owner = none)
    (hc0 : cs.s.closed = false)
    (hsub : (cs'.task t).submitted = (cs.task t).submitted)
    (hp : (cs.task t).pc.pending = b :: (cs'.task t).pc.pending)
    (hac : (cs'.task t).pc.afterClose = false) : OrdInv cs' := by
  have hfil : ∀ u, (pad.filter (fun x => x.owner == some u)) = [] := by
    intro u
    apply List.filter_eq_nil_iff.mpr
    intro x hx; rw [hpad x hx]; simp
  have hacc : ∀ u, accepted cs' u = accepted cs u ++ (if u = t then [b] else []) := by
    intro u
    unfold accepted
    rw [hlog, List.filter_append, List.map_append, List.filter_cons, hfil u]
    by_cases e : u = t
    · subst e; simp
    · have : (some t == some u) = false := by simp; exact fun e' => e e'.symm
      simp [e, this]
  have eqs : ∀ u, (cs'.task u).submitted = accepted cs' u ++ (cs'.task u).pc.pending := by
    intro u
    rw [hacc]
    by_cases e : u = t
    · subst e; simp only [if_true]; rw [hsub, h.eq hc0 u, hp]; simp
    · simp only [e, if_false, List.append_nil]
      obtain ⟨hp, _, hs⟩ := others_pending hso u e
      rw [hs, hp]; exact h.eq hc0 u
  refine ⟨fun u => ?_, fun _ u => eqs u, fun u hu => ?_⟩
  · rw [eqs u]; exact List.prefix_append _ _
  · by_cases e : u = t
    · subst e; rw [hac] at hu; cases hu
    · obtain ⟨_, ha, _⟩ := others_pending hso u e
      rw [ha] at hu
      have := h.ac u hu; rw [hc0] at this; cases this

theorem OrdInv_micro (h : OrdInv cs) (hm : micro cs t = some cs') : OrdInv cs' := by
  have hso := micro_others hm
  have hcl := micro_closed_mono hm
  have hac {pc} (hpc : (cs.task t).pc = pc) (ha : pc.afterClose = true) : cs.s.closed = true := h.ac t (by rw [hpc]; exact ha)
  obtain ⟨c, k, ha, rfl⟩ := micro_act hm
  -- the new state is `c.put t k`: where the lemmas say `cs'.task t`, `put_self` puts `k`
  rw [put_s] at hcl
  have keep := @ord_keep t cs (c.put t k) [] h hso hcl
  have submit (new : List Bytes) := @ord_keep t cs (c.put t k) new h hso hcl
  have accept (b : Bytes) (pad : List Unit') := @ord_accept t cs (c.put t k) b pad h hso
  simp only [put_self, put_s, put_log, List.append_nil] at keep submit accept
  -- once the session is closed, `t` owes nothing about its pending frames
  have closed (hlog : c.log = cs.log) (hsub : k.submitted = (cs.task t).submitted) (hc : c.s.closed = true) :=
    keep hlog hsub (hpend := fun h => by rw [hc] at h; cases h) (hac := fun _ => hc)
  induction ha with
  -- frames are submitted (an operation starts; `register`: the SYN of an `open`) and are pending from then on
  | write hpc | data hpc | dataOwn hpc | register hpc =>
    exact submit _ (hlog := rfl) (hsub := rfl) (hpend := fun _ => by rw [hpc]; rfl) (hac := nofun)
  -- `write_frame` takes the head of the pending frames: into the buffer, or into a packet, whose padding has no owner
  | @bufferLast b hpc hc | @bufferMore b _ _ hpc hc =>
    exact accept b [] (hlog := by simp [CS.buffered]) (hpad := by simp) (hc0 := hc) (hsub := rfl) (hp := by rw [hpc]; rfl) (hac := rfl)
  | @prepare b fs hpc hc =>
    obtain ⟨pads, _, hlog, _⟩ := prepared_spec cs t b
    refine accept b _ hlog (hpad := fun x hx => ?_) (hc0 := hc) (hsub := rfl) (hp := by rw [hpc]; rfl) (hac := rfl)
    split at hx
    · cases hx
    · rw [List.mem_singleton] at hx; rw [hx]
  | done hpc | writeRefused hpc | openChecked hpc | closeAgain hpc | nobuf hpc | openRefused hpc | enterFree hpc | enterHeld hpc
  | lockedNil hpc | preWrFree hpc | preWrHeld hpc | pieceNil hpc | pieceLast hpc | pieceMore hpc | wdoneMore hpc =>
    exact keep (hlog := by simp) (hsub := rfl) (hpend := fun _ => by rw [hpc]; rfl) (hac := nofun)
  -- the session is closed afterwards: the action found it so (`hc`), closes it itself, or starts in a state of `afterClose`
  | lockedClosed hpc hc | pieceFailed hpc _ hc => exact closed (by simp) rfl (by simpa using hc)
  | closeStart hpc | pieceFailedClose hpc => exact closed (by simp) rfl (by simp)
  | cflag hpc | cdrainedFree hpc | cdrainedHeld hpc | cshutOp hpc | cshutInWrite hpc =>
    exact closed (by simp) rfl (by simpa using hac hpc rfl)
  -- the operation ends and nothing may be pending: after `.ok` nothing was (the side condition of `wdoneLast`), after a
  -- failure the session is closed
  | @wdoneLast r fs hpc hr =>
    refine keep (hlog := by simp) (hsub := rfl) (hpend := fun hc' => ?_) (hac := nofun)
    cases r with
    | ok => rw [hpc]; exact (hr rfl).symm
    | _ => rw [releaseBuf_s, hac hpc rfl] at hc'; cases hc'

end AnyTLS
