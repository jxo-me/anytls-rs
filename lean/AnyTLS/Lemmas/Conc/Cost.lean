/-
Termination of M13: a cost (`taskCost`) that every action strictly decreases for the task that takes it and leaves
unchanged for every other task, so that every schedule is bounded by `totalCost` (`sched_bounded`).
-/
import AnyTLS.Lemmas.Conc.Ids

namespace AnyTLS

/-! ### the number of `write_all` calls of one packet is bounded by the scheme -/

/-- an upper bound on the entries of any line of the scheme -/
def Scheme.maxParts (s : Scheme) : Nat := (s.map.map (fun kv => (splitOnByte 44 kv.2).length)).foldr max 0

theorem le_foldr_max (l : List Nat) (x : Nat) (h : x ∈ l) : x ≤ l.foldr max 0 := by
  induction l with
  | nil => cases h
  | cons a t ih =>
    simp only [List.foldr_cons]
    rcases List.mem_cons.mp h with e | e
    · subst e; exact Nat.le_max_left _ _
    · exact Nat.le_trans (ih e) (Nat.le_max_right _ _)

theorem specs_length_le (s : Scheme) (pkt : Nat) : (s.specs pkt).length ≤ s.maxParts := by
  unfold Scheme.specs
  split
  · exact Nat.zero_le _
  · rename_i line hg
    obtain ⟨kv, hm, e⟩ := mapGet_mem _ _ _ hg
    refine Nat.le_trans (List.length_filterMap_le _ _) (le_foldr_max _ _ ?_)
    rw [List.mem_map]
    exact ⟨kv, hm, by rw [e]⟩

theorem prepare_length_le (s : Sess) (payload : Bytes) : (s.prepare payload).2.length ≤ s.scheme.maxParts + 1 := by
  fun_cases Sess.prepare s payload
  -- the fourth, last branch of `Sess.prepare` shapes the packet; the others send it in one piece
  case case4 =>
    refine Nat.le_trans (shape_length_le _ _) ?_
    rw [resolve_length]
    exact Nat.succ_le_succ (specs_length_le _ _)
  all_goals exact Nat.le_add_left 1 _

theorem pieces_length_le (cs : CS) (b : Bytes) : (cs.pieces b).length ≤ cs.s.scheme.maxParts + 1 :=
  prepare_length_le { cs.s with buffer := [] } _

/-! ### the cost of a task

`rem K fs` pays for the frames after the first, `K` for each; so the constants only have to order the states one frame
goes through, each one more than the next.  What each transition asks:

    idle, []                  → fin                              0 < 1
    idle, op :: _             → idle  (refused, or `nobuf`)      1 ≤ opCost op
    idle, op :: _             → pc'                              pcCost pc' + 2 ≤ opCost op, with 1 to spare in each:
                                                                   write, data → `enter`, n * K + 1 for n frames
                                                                   open → `openChecked`, K + 2;  close → `cflag .op`, 5
    openChecked               → enter [syn]                      K + 1 < K + 2
    enter fs                  → waitBuf fs, locked fs            K < K + 1
    locked (b :: fs)          → preWr ps (b :: fs)               ps.length + 7 < K    — the one that bounds `K` from below
    locked (b :: g :: gs)     → enter (g :: gs)  (`b` buffered)  K + 1 < 2 * K
    preWr ps fs               → waitWr ps fs, piece ps fs        6 < 7
    piece (p :: q :: ps) fs   → piece (q :: ps) fs               one piece fewer
    piece ps fs               → wdone _ fs                       2 < ps.length + 6
    piece (p :: ps) fs        → cflag (.inWrite fs)              5 < ps.length + 7
    wdone .ok (x :: g :: gs)  → enter (g :: gs)                  K + 1 < K + 2
    cflag k → cdrained k      → cwait k, cshut k                 3 < 4 < 5
    cshut (.inWrite fs)       → wdone .errIo fs                  2 < 3
    any busy state            → idle  (the operation ends)       1 < 2

A state that waits costs what the state it is granted costs (`waitBuf` as `locked`, `waitWr` as `piece`, `cwait` as
`cshut`): being granted a lock is no action of the waiting task.  A packet has at most `maxParts + 1` pieces
(`pieces_length_le`), so `locked → preWr` needs `maxParts + 9 ≤ K`, and nothing needs more; `micro_cost` and what follows
ask for `maxParts + 12`, three more than that. -/

def rem (K : Nat) (fs : List Bytes) : Nat := (fs.length - 1) * K

def kCost (K : Nat) : CloseK → Nat
  | .op => 0
  | .inWrite fs => rem K fs

def pcCost (K : Nat) : PC → Nat
  | .idle | .fin => 0
  | .openChecked => K + 2
  | .enter fs => rem K fs + K + 1
  | .waitBuf fs | .locked fs => rem K fs + K
  | .preWr ps fs => rem K fs + ps.length + 7
  | .waitWr ps fs | .piece ps fs => rem K fs + ps.length + 6
  | .wdone _ fs => rem K fs + 2
  | .cflag k => kCost K k + 5
  | .cdrained k => kCost K k + 4
  | .cwait k | .cshut k => kCost K k + 3

def opCost (K : Nat) : COp → Nat
  | .nobuf => 1
  | .close => 8
  | .write _ => K + 4
  | .data _ p => (dataFrames (p.length + 1) 0 p).length * K + 4
  | .dataOwn p => (dataFrames (p.length + 1) 0 p).length * K + 4
  | .open => K + 5

def sumCost (K : Nat) (ops : List COp) : Nat := (ops.map (opCost K)).sum

def taskCost (K : Nat) (k : Task) : Nat :=
  match k.pc with
  | .fin => 0
  | .idle => 1 + sumCost K k.ops
  | pc => 2 + pcCost K pc + sumCost K k.ops.tail

theorem pcCost_norm (K : Nat) (pc : PC) : pcCost K pc.norm = pcCost K pc := by cases pc <;> rfl

theorem taskCost_norm (K : Nat) (k k' : Task) (h1 : k'.pc.norm = k.pc.norm) (h2 : k'.ops = k.ops) : taskCost K k' = taskCost K k := by
  have e (j : Task) : taskCost K j = taskCost K { pc := j.pc.norm, ops := j.ops } := by
    unfold taskCost; cases j.pc <;> rfl
  rw [e k, e k', h1, h2]

theorem dataFrames_length_indep (sid sid' : Nat) : ∀ (fuel : Nat) (data : Bytes),
    (dataFrames fuel sid data).length = (dataFrames fuel sid' data).length := by
  intro fuel data
  fun_induction dataFrames fuel sid data <;> simp [dataFrames, *]

theorem dataFrames_pos (sid : Nat) (fuel : Nat) (data : Bytes) : 1 ≤ (dataFrames (fuel + 1) sid data).length := by
  unfold dataFrames; split <;> simp

theorem rem_add (K : Nat) (fs : List Bytes) (h : fs ≠ []) : rem K fs + K = fs.length * K := by
  unfold rem
  cases fs with
  | nil => exact absurd rfl h
  | cons x xs => simp only [List.length_cons, Nat.add_sub_cancel]; rw [Nat.succ_mul]

theorem rem_cons (K : Nat) (x g : Bytes) (gs : List Bytes) : rem K (x :: g :: gs) = rem K (g :: gs) + K := by
  unfold rem; simp only [List.length_cons, Nat.add_sub_cancel]; rw [Nat.succ_mul]

theorem rem_single (K : Nat) (x : Bytes) : rem K [x] = 0 := by simp [rem]

/-- inside an operation -/
def PC.busy : PC → Bool
  | .idle | .fin => false
  | _ => true

theorem taskCost_busy (K : Nat) (k : Task) (h : k.pc.busy = true) : taskCost K k = 2 + pcCost K k.pc + sumCost K k.ops.tail := by
  unfold taskCost
  cases hp : k.pc <;> rw [hp] at h <;> first | rfl | cases h

theorem taskCost_idle (K : Nat) (k : Task) (h : k.pc = .idle) : taskCost K k = 1 + sumCost K k.ops := by
  unfold taskCost; rw [h]

theorem sumCost_cons (K : Nat) (op : COp) (rest : List COp) : sumCost K (op :: rest) = opCost K op + sumCost K rest := by
  unfold sumCost; simp

theorem micro_cost (K : Nat) {cs cs' : CS} {t : Nat} (hK : cs.s.scheme.maxParts + 12 ≤ K) (hm : micro cs t = some cs') :
    taskCost K (cs'.task t) < taskCost K (cs.task t) := by
  have ofBusy {pc : PC} (hpc : (cs.task t).pc = pc) (hb : pc.busy = true) :
      taskCost K (cs.task t) = 2 + pcCost K pc + sumCost K (cs.task t).ops.tail := by
    rw [taskCost_busy K _ (hpc ▸ hb), hpc]
  have ofIdle {op : COp} {rest : List COp} (hpc : (cs.task t).pc = .idle) (hops : (cs.task t).ops = op :: rest) :
      taskCost K (cs.task t) = 1 + opCost K op + sumCost K (cs.task t).ops.tail := by
    rw [taskCost_idle K _ hpc, hops, sumCost_cons, List.tail_cons, Nat.add_assoc]
  have frames (sid : Nat) (p : Bytes) :
      rem K ((dataFrames (p.length + 1) sid p).map encodeD) + K = (dataFrames (p.length + 1) 0 p).length * K := by
    rw [rem_add, List.length_map, dataFrames_length_indep sid 0]
    have := dataFrames_pos sid p.length p
    intro e; rw [List.map_eq_nil_iff] at e; rw [e] at this; cases this
  have toGoto (pc : PC) (h : pc.busy = true) :
      taskCost K ((cs.task t).goto pc) = 2 + pcCost K pc + sumCost K (cs.task t).ops.tail := taskCost_busy K _ h
  have toFinish (j : Task) (r : Res) (ho : j.ops = (cs.task t).ops) :
      taskCost K (j.finish r) = 1 + sumCost K (cs.task t).ops.tail := ho ▸ taskCost_idle K _ rfl
  have toSubmits (j : Task) (fs : List Bytes) (ho : j.ops = (cs.task t).ops) :
      taskCost K (j.submits fs) = 2 + (rem K fs + K + 1) + sumCost K (cs.task t).ops.tail := ho ▸ taskCost_busy K _ rfl
  have lt_fin (p S : Nat) : 1 + S < 2 + p + S := by omega
  have lt_goto {p p' : Nat} (S : Nat) (h : p' < p) : 2 + p' + S < 2 + p + S := by omega
  obtain ⟨c, k, ha, rfl⟩ := micro_act hm
  rw [put_self]
  -- the groups are the rows of the table above `rem`
  induction ha with
  | done hpc => rw [taskCost_idle K _ hpc]; simp [taskCost, Task.goto]; omega
  | nobuf hpc ho | writeRefused hpc ho | closeAgain hpc ho => rw [ofIdle hpc ho, toFinish _ _ rfl]; simp only [opCost]; omega
  | write hpc ho => rw [ofIdle hpc ho, toSubmits _ _ rfl]; simp only [opCost, rem_single]; omega
  | @data sid p _ hpc ho => rw [ofIdle hpc ho, toSubmits _ _ rfl]; have := frames sid p; simp only [opCost]; omega
  | @dataOwn p _ hpc ho =>
    rw [ofIdle hpc ho, toSubmits _ _ rfl]
    have := frames ((((cs.task t).sids.filterMap id).getLast?).getD 0) p
    simp only [opCost]; omega
  | openRefused hpc ho => rw [ofIdle hpc ho, toFinish _ _ (by rfl)]; simp only [opCost]; omega
  | openChecked hpc ho | closeStart hpc ho => rw [ofIdle hpc ho, toGoto _ rfl]; simp only [opCost, pcCost, kCost]; omega
  | register hpc =>
    rw [ofBusy hpc rfl, toSubmits _ _ (by rfl)]; simp only [pcCost, rem_single]; omega
  | enterFree hpc | enterHeld hpc | preWrFree hpc | preWrHeld hpc | pieceMore hpc | cflag hpc | cdrainedFree hpc | cdrainedHeld hpc
  | pieceNil hpc | pieceLast hpc | pieceFailed hpc | pieceFailedClose hpc | cshutInWrite hpc =>
    rw [ofBusy hpc rfl, toGoto _ rfl]; exact lt_goto _ (by simp only [pcCost, kCost, List.length_cons, List.length_nil]; omega)
  | lockedNil hpc | lockedClosed hpc | bufferLast hpc | wdoneLast hpc | cshutOp hpc => rw [ofBusy hpc rfl, toFinish _ _ rfl]; exact lt_fin _ _
  | bufferMore hpc | wdoneMore hpc => rw [ofBusy hpc rfl, toGoto _ rfl]; exact lt_goto _ (by simp only [pcCost, rem_cons]; omega)
  | @prepare b fs hpc =>
    rw [ofBusy hpc rfl, toGoto _ rfl]
    have := pieces_length_le cs b
    simp only [pcCost]
    omega

def totalCost (K : Nat) (cs : CS) : Nat := ((List.range cs.n).map (fun u => taskCost K (cs.task u))).sum

theorem sum_update_lt : ∀ (n t : Nat) (f g : Nat → Nat), t < n → g t < f t → (∀ u, u ≠ t → g u = f u) →
    ((List.range n).map g).sum < ((List.range n).map f).sum := by
  intro n
  induction n with
  | zero => intro t f g h; omega
  | succ m ih =>
    intro t f g ht hlt hoth
    rw [List.range_succ, List.map_append, List.map_append, List.sum_append, List.sum_append]
    simp only [List.map_cons, List.map_nil, List.sum_cons, List.sum_nil, Nat.add_zero]
    by_cases e : t = m
    · subst e
      have : (List.range t).map g = (List.range t).map f := by
        apply List.map_congr_left
        intro u hu
        rw [List.mem_range] at hu
        exact hoth u (by omega)
      rw [this]; omega
    · have := ih t f g (by omega) hlt hoth
      rw [hoth m (fun e' => e e'.symm)]
      omega

theorem micro_total (K : Nat) {cs cs' : CS} {t : Nat} (hid : IdInv cs) (hK : cs.s.scheme.maxParts + 12 ≤ K)
    (hm : micro cs t = some cs') : totalCost K cs' < totalCost K cs := by
  unfold totalCost
  rw [micro_n hm]
  refine sum_update_lt cs.n t _ _ (hid.acts hm) (micro_cost K hK hm) fun u hu => ?_
  obtain ⟨h1, _, h3, _, _⟩ := micro_others hm u hu
  exact taskCost_norm K _ _ h1 h3

/-- a schedule: which task acts next; it is valid if each named task can act when its turn comes -/
def runSched : CS → List Nat → Option CS
  | cs, [] => some cs
  | cs, t :: rest => match micro cs t with
    | some cs' => runSched cs' rest
    | none => none

/-- T9.3 (`C09.every_schedule_is_bounded`) is this from a reachable state -/
theorem sched_bounded (K : Nat) : ∀ (l : List Nat) (cs cs' : CS), IdInv cs → cs.s.scheme.maxParts + 12 ≤ K →
    runSched cs l = some cs' → l.length + totalCost K cs' ≤ totalCost K cs := by
  intro l
  induction l with
  | nil => intro cs cs' _ _ h; cases h; simp
  | cons t rest ih =>
    intro cs cs' hid hK h
    unfold runSched at h
    split at h
    · rename_i c1 hm
      have h1 := micro_total K hid hK hm
      have h2 := ih c1 cs' (IdInv_micro hid hm) (by rw [micro_scheme hm]; exact hK) h
      simp only [List.length_cons]
      omega
    · cases h

end AnyTLS
