/-
Task ids and stream ids in M13: the two invariants that need only what every action leaves alone or appends
(`micro_others`, `micro_n`, `micro_log`, `micro_selfsub`), not the locks.
-/
import AnyTLS.Lemmas.Conc.Step

namespace AnyTLS

variable {t : Nat} {cs cs' : CS}

structure IdInv (cs : CS) : Prop where
  unused : ∀ u, cs.n ≤ u → (cs.task u).pc = .fin ∧ (cs.task u).submitted = []
  owners : ∀ x ∈ cs.log, ∀ t, x.owner = some t → t < cs.n

theorem norm_fin {pc : PC} (h : pc.norm = .fin) : pc = .fin := by
  cases pc <;> first | rfl | cases h

theorem IdInv.acts (h : IdInv cs) (hm : micro cs t = some cs') : t < cs.n := by
  refine Nat.lt_of_not_le fun hle => ?_
  unfold micro at hm
  simp only [(h.unused t hle).1] at hm
  cases hm

theorem IdInv_micro (h : IdInv cs) (hm : micro cs t = some cs') : IdInv cs' := by
  have hn := micro_n hm
  obtain ⟨add, hlog, hadd⟩ := micro_log hm
  refine ⟨fun u hu => ?_, fun x hx u hxu => ?_⟩
  · rw [hn] at hu
    obtain ⟨h1, h2, _⟩ := micro_others hm u (by have := h.acts hm; omega)
    rw [(h.unused u hu).1] at h1
    exact ⟨norm_fin h1, h2.trans (h.unused u hu).2⟩
  · rw [hn]
    rw [hlog, List.mem_append] at hx
    rcases hx with hx | hx
    · exact h.owners x hx u hxu
    · rcases hadd x hx with e | ⟨e, _⟩
      · rw [e] at hxu; cases hxu; exact h.acts hm
      · rw [e] at hxu; cases hxu

def SynInv (cs : CS) : Prop := ∀ t sid, some sid ∈ (cs.task t).sids → synBytes sid ∈ (cs.task t).submitted

theorem SynInv_micro (h : SynInv cs) (hm : micro cs t = some cs') : SynInv cs' := by
  intro u sid hs
  by_cases e : u = t
  · subst e
    cases micro_selfsub hm with
    | same new h1 h2 => rw [h1] at hs; rw [h2]; exact List.mem_append_left _ (h u sid hs)
    | refused h1 h2 =>
      rw [h2]
      rw [h1, List.mem_append] at hs
      exact h u sid (hs.resolve_right (by simp))
    | opened sid' h1 h2 =>
      rw [h1, List.mem_append] at hs; rw [h2]
      rcases hs with hs | hs
      · exact List.mem_append_left _ (h u sid hs)
      · simp at hs; rw [hs]; simp
  · obtain ⟨_, h2, _, _, h5⟩ := micro_others hm u e
    rw [h5] at hs; rw [h2]; exact h u sid hs

/-- holders are existing tasks -/
def HoldersOk (cs : CS) : Prop := (∀ t, cs.bufHolder = some t → t < cs.n) ∧ (∀ t, t ∈ cs.bufQ → t < cs.n)

end AnyTLS
