/-
The transitions of `micro` (M13) as a relation, `Act`, and what every transition leaves alone.
The invariants of `Lemmas/Conc/*` are proved by cases on `Act`, which `micro_act` extracts from `micro`.
-/
import AnyTLS.Model.Conc
import AnyTLS.Lemmas.Padding

namespace AnyTLS

/-! ### what the state combinators touch -/

@[simp] theorem setTask_task (cs : CS) (t t' : Nat) (f : Task → Task) :
    (cs.setTask t f).task t' = if t' = t then f (cs.task t') else cs.task t' := rfl
@[simp] theorem setTask_s (cs : CS) (t : Nat) (f : Task → Task) : (cs.setTask t f).s = cs.s := rfl
@[simp] theorem setTask_n (cs : CS) (t : Nat) (f : Task → Task) : (cs.setTask t f).n = cs.n := rfl
@[simp] theorem setTask_wrHolder (cs : CS) (t : Nat) (f : Task → Task) : (cs.setTask t f).wrHolder = cs.wrHolder := rfl
@[simp] theorem setTask_bufQ (cs : CS) (t : Nat) (f : Task → Task) : (cs.setTask t f).bufQ = cs.bufQ := rfl
@[simp] theorem setTask_wrQ (cs : CS) (t : Nat) (f : Task → Task) : (cs.setTask t f).wrQ = cs.wrQ := rfl
@[simp] theorem setTask_log (cs : CS) (t : Nat) (f : Task → Task) : (cs.setTask t f).log = cs.log := rfl
@[simp] theorem setTask_failed (cs : CS) (t : Nat) (f : Task → Task) : (cs.setTask t f).failed = cs.failed := rfl

@[simp] theorem setPC_n (cs : CS) (t : Nat) (pc : PC) : (cs.setPC t pc).n = cs.n := rfl

@[simp] theorem finishOp_pc (cs : CS) (t t' : Nat) (r : Res) :
    ((cs.finishOp t r).task t').pc = if t' = t then .idle else (cs.task t').pc := by
  unfold CS.finishOp; rw [setTask_task]; split <;> rfl
@[simp] theorem finishOp_s (cs : CS) (t : Nat) (r : Res) : (cs.finishOp t r).s = cs.s := rfl
@[simp] theorem finishOp_n (cs : CS) (t : Nat) (r : Res) : (cs.finishOp t r).n = cs.n := rfl
@[simp] theorem finishOp_wrHolder (cs : CS) (t : Nat) (r : Res) : (cs.finishOp t r).wrHolder = cs.wrHolder := rfl
@[simp] theorem finishOp_bufQ (cs : CS) (t : Nat) (r : Res) : (cs.finishOp t r).bufQ = cs.bufQ := rfl
@[simp] theorem finishOp_wrQ (cs : CS) (t : Nat) (r : Res) : (cs.finishOp t r).wrQ = cs.wrQ := rfl
@[simp] theorem finishOp_log (cs : CS) (t : Nat) (r : Res) : (cs.finishOp t r).log = cs.log := rfl
@[simp] theorem finishOp_failed (cs : CS) (t : Nat) (r : Res) : (cs.finishOp t r).failed = cs.failed := rfl

@[simp] theorem submit_s (cs : CS) (t : Nat) (fs : List Bytes) : (cs.submit t fs).s = cs.s := rfl
@[simp] theorem submit_n (cs : CS) (t : Nat) (fs : List Bytes) : (cs.submit t fs).n = cs.n := rfl
@[simp] theorem submit_wrHolder (cs : CS) (t : Nat) (fs : List Bytes) : (cs.submit t fs).wrHolder = cs.wrHolder := rfl
@[simp] theorem submit_bufQ (cs : CS) (t : Nat) (fs : List Bytes) : (cs.submit t fs).bufQ = cs.bufQ := rfl
@[simp] theorem submit_wrQ (cs : CS) (t : Nat) (fs : List Bytes) : (cs.submit t fs).wrQ = cs.wrQ := rfl
@[simp] theorem submit_log (cs : CS) (t : Nat) (fs : List Bytes) : (cs.submit t fs).log = cs.log := rfl
@[simp] theorem submit_failed (cs : CS) (t : Nat) (fs : List Bytes) : (cs.submit t fs).failed = cs.failed := rfl

/-- what `setPC`, `finishOp` and `submit` do to the task itself -/
def Task.goto (k : Task) (pc : PC) : Task := { k with pc := pc }
def Task.finish (k : Task) (r : Res) : Task := { k with pc := .idle, ops := k.ops.tail, results := k.results ++ [r] }
def Task.submits (k : Task) (fs : List Bytes) : Task := { k with pc := .enter fs, submitted := k.submitted ++ fs }

theorem finishOp_self (cs : CS) (t : Nat) (r : Res) : (cs.finishOp t r).task t = (cs.task t).finish r := if_pos rfl
theorem submit_self (cs : CS) (t : Nat) (fs : List Bytes) : (cs.submit t fs).task t = (cs.task t).submits fs := if_pos rfl

theorem spawn_task (cs : CS) (k : Task) (u : Nat) : ((cs.spawn k).task u) = if u = cs.n then k else cs.task u := rfl

/-! ### the lock hand-offs -/

def PC.grantBuf : PC → PC
  | .waitBuf fs => .locked fs
  | pc => pc

def PC.grantWr : PC → PC
  | .waitWr ps fs => .piece ps fs
  | .cwait k => .cshut k
  | pc => pc

theorem setPC_same (cs : CS) (w : Nat) : cs.setPC w (cs.task w).pc = cs := by
  cases cs
  simp only [CS.setPC, CS.setTask, CS.task, CS.mk.injEq, true_and, and_true]
  funext i
  split
  · subst i; rfl
  · rfl

theorem releaseBuf_eq (cs : CS) : cs.releaseBuf = match cs.bufQ with
    | [] => { cs with bufHolder := none }
    | w :: q => { cs with bufHolder := some w, bufQ := q }.setPC w (cs.task w).pc.grantBuf := by
  have grant (c : CS) (w : Nat) :
      (match (c.task w).pc with | .waitBuf fs => c.setPC w (.locked fs) | _ => c) = c.setPC w (c.task w).pc.grantBuf := by
    cases h : (c.task w).pc <;> first | rfl | exact (h ▸ setPC_same c w).symm
  unfold CS.releaseBuf
  cases cs.bufQ with
  | nil => rfl
  | cons w q => exact grant _ w

theorem releaseWr_eq (cs : CS) : cs.releaseWr = match cs.wrQ with
    | [] => { cs with wrHolder := none }
    | w :: q => { cs with wrHolder := some w, wrQ := q }.setPC w (cs.task w).pc.grantWr := by
  have grant (c : CS) (w : Nat) :
      (match (c.task w).pc with | .waitWr ps fs => c.setPC w (.piece ps fs) | .cwait k => c.setPC w (.cshut k) | _ => c) =
        c.setPC w (c.task w).pc.grantWr := by
    cases h : (c.task w).pc <;> first | rfl | exact (h ▸ setPC_same c w).symm
  unfold CS.releaseWr
  cases cs.wrQ with
  | nil => rfl
  | cons w q => exact grant _ w

theorem releaseBuf_task (cs : CS) (u : Nat) : cs.releaseBuf.task u =
    if cs.bufQ.head? = some u then { cs.task u with pc := (cs.task u).pc.grantBuf } else cs.task u := by
  rw [releaseBuf_eq]
  cases cs.bufQ with
  | nil => simp; rfl
  | cons w q =>
    show (if u = w then _ else _) = _
    by_cases e : u = w
    · subst e; simp only [List.head?_cons, if_true]; rfl
    · rw [if_neg e, if_neg (by simpa using Ne.symm e)]; rfl

theorem releaseWr_task (cs : CS) (u : Nat) : cs.releaseWr.task u =
    if cs.wrQ.head? = some u then { cs.task u with pc := (cs.task u).pc.grantWr } else cs.task u := by
  rw [releaseWr_eq]
  cases cs.wrQ with
  | nil => simp; rfl
  | cons w q =>
    show (if u = w then _ else _) = _
    by_cases e : u = w
    · subst e; simp only [List.head?_cons, if_true]; rfl
    · rw [if_neg e, if_neg (by simpa using Ne.symm e)]; rfl

@[simp] theorem releaseBuf_results (cs : CS) (u : Nat) : (cs.releaseBuf.task u).results = (cs.task u).results := by
  rw [releaseBuf_task]; split <;> rfl

@[simp] theorem releaseBuf_s (cs : CS) : cs.releaseBuf.s = cs.s := by rw [releaseBuf_eq]; split <;> rfl
@[simp] theorem releaseBuf_log (cs : CS) : cs.releaseBuf.log = cs.log := by rw [releaseBuf_eq]; split <;> rfl
@[simp] theorem releaseBuf_failed (cs : CS) : cs.releaseBuf.failed = cs.failed := by rw [releaseBuf_eq]; split <;> rfl
@[simp] theorem releaseBuf_n (cs : CS) : cs.releaseBuf.n = cs.n := by rw [releaseBuf_eq]; split <;> rfl
@[simp] theorem releaseBuf_wrHolder (cs : CS) : cs.releaseBuf.wrHolder = cs.wrHolder := by rw [releaseBuf_eq]; split <;> rfl
@[simp] theorem releaseBuf_wrQ (cs : CS) : cs.releaseBuf.wrQ = cs.wrQ := by rw [releaseBuf_eq]; split <;> rfl

@[simp] theorem releaseWr_s (cs : CS) : cs.releaseWr.s = cs.s := by rw [releaseWr_eq]; split <;> rfl
@[simp] theorem releaseWr_log (cs : CS) : cs.releaseWr.log = cs.log := by rw [releaseWr_eq]; split <;> rfl
@[simp] theorem releaseWr_failed (cs : CS) : cs.releaseWr.failed = cs.failed := by rw [releaseWr_eq]; split <;> rfl
@[simp] theorem releaseWr_n (cs : CS) : cs.releaseWr.n = cs.n := by rw [releaseWr_eq]; split <;> rfl
@[simp] theorem releaseWr_bufHolder (cs : CS) : cs.releaseWr.bufHolder = cs.bufHolder := by rw [releaseWr_eq]; split <;> rfl
@[simp] theorem releaseWr_bufQ (cs : CS) : cs.releaseWr.bufQ = cs.bufQ := by rw [releaseWr_eq]; split <;> rfl

theorem releaseWr_with_s (c : CS) (s' : Sess) : ({ c with s := s' } : CS).releaseWr = { c.releaseWr with s := s' } := by
  rw [releaseWr_eq, releaseWr_eq]
  show (match c.wrQ with | [] => _ | w :: q => _) = _
  cases c.wrQ <;> rfl

/-! ### the sequential pieces -/

theorem prepare_spec (s : Sess) (payload : Bytes) :
    ((s.prepare payload).1.wire = s.wire ∧ (s.prepare payload).1.buffer = s.buffer ∧ (s.prepare payload).1.closed = s.closed ∧
      (s.prepare payload).1.shut = s.shut ∧ (s.prepare payload).1.scheme = s.scheme) ∧
    ∃ pads : List Nat, flatten (s.prepare payload).2 = payload ++ flatten (pads.map wasteFrame) := by
  fun_cases Sess.prepare s payload
  -- the branches of `Sess.prepare`, numbered from the top: the fourth, last one shapes the packet, the others send it whole
  case case4 => exact ⟨⟨rfl, rfl, rfl, rfl, rfl⟩, _, shape_flatten _ _⟩
  all_goals exact ⟨⟨rfl, rfl, rfl, rfl, rfl⟩, [], by simp⟩

theorem transportWrite_spec {s s' : Sess} {w : Bytes} (h : s.transportWrite w = some s') :
    s'.wire = s.wire ++ [w] ∧ s'.buffer = s.buffer ∧ s'.closed = s.closed ∧ s'.shut = s.shut ∧ s'.scheme = s.scheme := by
  revert h
  fun_cases Sess.transportWrite s w <;> intro h <;> cases h <;> exact ⟨rfl, rfl, rfl, rfl, rfl⟩

@[simp] theorem closeDrain_closed (s : Sess) : s.closeDrain.closed = s.closed := rfl

theorem closeDrain_obj (s : Sess) {sid h : Nat} (hin : (sid, h) ∈ s.streams) {o : Obj} (ho : s.objs[h]? = some o) :
    ∃ o', s.closeDrain.objs[h]? = some o' ∧ o'.closedFlag = true ∧ o'.synack ≠ .pending ∧
      ((sid, h) ∈ s.recv → o'.rd.chanOpen = false) := by
  have hany : s.streams.any (fun kv => kv.2 == h) = true := List.any_eq_true.mpr ⟨(sid, h), hin, by simp⟩
  have key : (o.closeWithError.notifySynack (.err "Protocol error: Session closed")).closedFlag = true ∧
      (o.closeWithError.notifySynack (.err "Protocol error: Session closed")).synack ≠ .pending := by
    unfold Obj.notifySynack Obj.closeWithError
    cases o.synack <;> simp
  unfold Sess.closeDrain
  simp only [List.getElem?_mapIdx, ho, Option.map_some, hany, if_true]
  split
  · exact ⟨_, rfl, key.1, key.2, fun _ => by simp [RState.closeChan]⟩
  · rename_i hn
    refine ⟨_, rfl, key.1, key.2, fun hr => absurd (List.any_eq_true.mpr ⟨(sid, h), hr, ?_⟩) hn⟩
    simp only [beq_self_eq_true, Bool.true_and]
    exact List.any_eq_true.mpr ⟨(sid, h), hin, by simp⟩

/-! `CS.buffered`, `CS.pieces` and `CS.prepared` give names to what `micro` computes in the `let`s of its `locked` branch, so
that `Act` and the invariants can speak of it; `micro_act` holds as long as they say what those `let`s say, so the two
change together. -/

def CS.buffered (cs : CS) (t : Nat) (b : Bytes) : CS :=
  { cs with s := { cs.s with buffer := cs.s.buffer ++ b }, log := cs.log ++ [({ owner := some t, bytes := b } : Unit')] }

/-- the `write_all` calls of the write of the buffer and `b` -/
def CS.pieces (cs : CS) (b : Bytes) : List Bytes := ({ cs.s with buffer := [] }.prepare (cs.s.buffer ++ b)).2

/-- the holder `t` of the buffer lock has started the write of the buffer and `b`: both are in flight now, and the
padding the pieces carry beyond them joins the log -/
def CS.prepared (cs : CS) (t : Nat) (b : Bytes) : CS :=
  let pad := (flatten (cs.pieces b)).drop (cs.s.buffer ++ b).length
  { cs with
    s := ({ cs.s with buffer := [] }.prepare (cs.s.buffer ++ b)).1
    log := cs.log ++ [({ owner := some t, bytes := b } : Unit')] ++
      (if pad.isEmpty then [] else [({ owner := none, bytes := pad } : Unit')]) }

theorem prepared_spec (cs : CS) (t : Nat) (b : Bytes) : ∃ pads : List Nat,
    flatten (cs.pieces b) = cs.s.buffer ++ b ++ flatten (pads.map wasteFrame) ∧
    (cs.prepared t b).log = cs.log ++ ({ owner := some t, bytes := b } : Unit') ::
      (if flatten (pads.map wasteFrame) = [] then [] else [{ owner := none, bytes := flatten (pads.map wasteFrame) }]) ∧
    (cs.prepared t b).s.wire = cs.s.wire ∧ (cs.prepared t b).s.buffer = [] ∧ (cs.prepared t b).s.closed = cs.s.closed ∧
    (cs.prepared t b).s.shut = cs.s.shut ∧ (cs.prepared t b).s.scheme = cs.s.scheme := by
  obtain ⟨⟨h1, h2, h3, h4, h5⟩, pads, hflat⟩ := prepare_spec { cs.s with buffer := [] } (cs.s.buffer ++ b)
  have hd : (flatten (cs.pieces b)).drop (cs.s.buffer ++ b).length = flatten (pads.map wasteFrame) := by
    unfold CS.pieces; rw [hflat, List.drop_left]
  refine ⟨pads, hflat, ?_, h1, h2, h3, h4, h5⟩
  unfold CS.prepared
  simp only [hd, List.isEmpty_iff, List.append_assoc, List.singleton_append]

/-! ### `micro` as a relation -/

def CS.put (c : CS) (t : Nat) (k : Task) : CS := c.setTask t fun _ => k

@[simp] theorem put_self (c : CS) (t : Nat) (k : Task) : (c.put t k).task t = k := if_pos rfl
theorem put_task (c : CS) (t u : Nat) (k : Task) : (c.put t k).task u = if u = t then k else c.task u := rfl

theorem put_put (c : CS) (t : Nat) (a b : Task) : (c.put t a).put t b = c.put t b := by
  cases c
  simp only [CS.put, CS.setTask, CS.mk.injEq, true_and, and_true]
  funext i
  split <;> rfl

theorem setTask_eq_put (c : CS) (t : Nat) (f : Task → Task) : c.setTask t f = c.put t (f (c.task t)) := by
  cases c
  simp only [CS.put, CS.setTask, CS.task, CS.mk.injEq, true_and, and_true]
  funext i
  split
  · subst i; rfl
  · rfl

/-- the SYN of stream `sid` as `open_stream` submits it -/
def synBytes (sid : Nat) : Bytes := encodeD { cmd := .syn, sid := sid, data := [] }

/-- One action of task `t`, which is `j` (= `cs.task t`), in `cs`: `c` is what it does to the shared state and to the other
tasks (a field update under at most one lock release), `k` what becomes of `t` itself.  One constructor per branch of `micro`, with
`enterClose` and `lockWrWrite` expanded.  It is taken apart with `induction`, which for a relation that is not recursive is
`cases` without the unification of the indices (they are variables wherever it is used) and checks faster. -/
inductive Act (cs : CS) (t : Nat) (j : Task) : CS → Task → Prop
  | done : j.pc = .idle → j.ops = [] → Act cs t j cs (j.goto .fin)
  | nobuf {rest} : j.pc = .idle → j.ops = .nobuf :: rest →
      Act cs t j { cs with s := { cs.s with buffering := false } } (j.finish .ok)
  | writeRefused {f rest} : j.pc = .idle → j.ops = .write f :: rest → encode f = none →
      Act cs t j cs (j.finish .errIo)
  | write {f rest b} : j.pc = .idle → j.ops = .write f :: rest → encode f = some b →
      Act cs t j cs (j.submits [b])
  | data {sid payload rest} : j.pc = .idle → j.ops = .data sid payload :: rest →
      Act cs t j cs (j.submits ((dataFrames (payload.length + 1) sid payload).map encodeD))
  | dataOwn {payload rest} : j.pc = .idle → j.ops = .dataOwn payload :: rest →
      Act cs t j cs (j.submits ((dataFrames (payload.length + 1)
        (((j.sids.filterMap id).getLast?).getD 0) payload).map encodeD))
  | openRefused {rest} : j.pc = .idle → j.ops = .open :: rest → cs.s.closed = true →
      Act cs t j cs (({ j with sids := j.sids ++ [none] } : Task).finish .errClosed)
  | openChecked {rest} : j.pc = .idle → j.ops = .open :: rest → cs.s.closed = false →
      Act cs t j cs (j.goto .openChecked)
  | closeAgain {rest} : j.pc = .idle → j.ops = .close :: rest → cs.s.closed = true →
      Act cs t j cs (j.finish .ok)
  | closeStart {rest} : j.pc = .idle → j.ops = .close :: rest → cs.s.closed = false →
      Act cs t j { cs with s := { cs.s with closed := true } } (j.goto (.cflag .op))
  | register : j.pc = .openChecked →
      Act cs t j { cs with s := cs.s.register.1 }
        (({ j with sids := j.sids ++ [some cs.s.register.2.1] } : Task).submits [synBytes cs.s.register.2.1])
  | enterFree {fs} : j.pc = .enter fs → cs.bufHolder = none →
      Act cs t j { cs with bufHolder := some t } (j.goto (.locked fs))
  | enterHeld {fs h} : j.pc = .enter fs → cs.bufHolder = some h →
      Act cs t j { cs with bufQ := cs.bufQ ++ [t] } (j.goto (.waitBuf fs))
  | lockedNil : j.pc = .locked [] → Act cs t j cs.releaseBuf (j.finish .ok)
  | lockedClosed {b fs} : j.pc = .locked (b :: fs) → cs.s.closed = true →
      Act cs t j cs.releaseBuf (j.finish .errClosed)
  | bufferLast {b} : j.pc = .locked [b] → cs.s.closed = false → cs.s.buffering = true →
      Act cs t j (cs.buffered t b).releaseBuf (j.finish .ok)
  | bufferMore {b g gs} : j.pc = .locked (b :: g :: gs) → cs.s.closed = false → cs.s.buffering = true →
      Act cs t j (cs.buffered t b).releaseBuf (j.goto (.enter (g :: gs)))
  | prepare {b fs} : j.pc = .locked (b :: fs) → cs.s.closed = false → cs.s.buffering = false →
      Act cs t j (cs.prepared t b) (j.goto (.preWr (cs.pieces b) (b :: fs)))
  | preWrFree {ps fs} : j.pc = .preWr ps fs → cs.wrHolder = none →
      Act cs t j { cs with wrHolder := some t } (j.goto (.piece ps fs))
  | preWrHeld {ps fs h} : j.pc = .preWr ps fs → cs.wrHolder = some h →
      Act cs t j { cs with wrQ := cs.wrQ ++ [t] } (j.goto (.waitWr ps fs))
  | pieceNil {fs} : j.pc = .piece [] fs → Act cs t j cs.releaseWr (j.goto (.wdone .ok fs))
  | pieceLast {p fs s'} : j.pc = .piece [p] fs → cs.s.transportWrite p = some s' →
      Act cs t j ({ cs with s := s' } : CS).releaseWr (j.goto (.wdone .ok fs))
  | pieceMore {p q ps fs s'} : j.pc = .piece (p :: q :: ps) fs → cs.s.transportWrite p = some s' →
      Act cs t j { cs with s := s' } (j.goto (.piece (q :: ps) fs))
  | pieceFailed {p ps fs} : j.pc = .piece (p :: ps) fs → cs.s.transportWrite p = none → cs.s.closed = true →
      Act cs t j ({ cs with failed := true } : CS).releaseWr (j.goto (.wdone .errIo fs))
  | pieceFailedClose {p ps fs} : j.pc = .piece (p :: ps) fs → cs.s.transportWrite p = none → cs.s.closed = false →
      Act cs t j ({ cs with failed := true, s := { cs.s with closed := true } } : CS).releaseWr
        (j.goto (.cflag (.inWrite fs)))
  | wdoneMore {x g gs} : j.pc = .wdone .ok (x :: g :: gs) →
      Act cs t j cs.releaseBuf (j.goto (.enter (g :: gs)))
  -- all of `wdone` that is not `wdoneMore`: the write failed, or no frame is left after the one written
  | wdoneLast {r fs} : j.pc = .wdone r fs → (r = .ok → fs.tail = []) → Act cs t j cs.releaseBuf (j.finish r)
  | cflag {k} : j.pc = .cflag k → Act cs t j { cs with s := cs.s.closeDrain } (j.goto (.cdrained k))
  | cdrainedFree {k} : j.pc = .cdrained k → cs.wrHolder = none →
      Act cs t j { cs with wrHolder := some t } (j.goto (.cshut k))
  | cdrainedHeld {k h} : j.pc = .cdrained k → cs.wrHolder = some h →
      Act cs t j { cs with wrQ := cs.wrQ ++ [t] } (j.goto (.cwait k))
  | cshutOp : j.pc = .cshut .op →
      Act cs t j ({ cs with s := { cs.s with shut := true } } : CS).releaseWr (j.finish .ok)
  | cshutInWrite {fs} : j.pc = .cshut (.inWrite fs) →
      Act cs t j ({ cs with s := { cs.s with shut := true } } : CS).releaseWr (j.goto (.wdone .errIo fs))

theorem releaseBuf_goto (c : CS) (t : Nat) :
    (c.releaseBuf.task t).goto = (c.task t).goto ∧ (c.releaseBuf.task t).finish = (c.task t).finish := by
  rw [releaseBuf_task]; split <;> exact ⟨rfl, rfl⟩
theorem releaseWr_goto (c : CS) (t : Nat) :
    (c.releaseWr.task t).goto = (c.task t).goto ∧ (c.releaseWr.task t).finish = (c.task t).finish := by
  rw [releaseWr_task]; split <;> exact ⟨rfl, rfl⟩

variable {cs cs' : CS} {t : Nat}

theorem micro_act (hm : micro cs t = some cs') : ∃ c k, Act cs t (cs.task t) c k ∧ cs' = c.put t k := by
  have asGoto (c : CS) (pc : PC) : c.setPC t pc = c.put t ((c.task t).goto pc) := setTask_eq_put c t _
  have asFinish (c : CS) (r : Res) : c.finishOp t r = c.put t ((c.task t).finish r) := setTask_eq_put c t _
  have asSubmits (c : CS) (fs : List Bytes) : c.submit t fs = c.put t ((c.task t).submits fs) := setTask_eq_put c t _
  have nf {b : Bool} (h : ¬ b = true) : b = false := Bool.eq_false_iff.mpr h
  -- the cases come in the order of the branches of `micro`; those without an action go at once
  revert hm
  fun_cases micro cs t <;> intro hm <;> cases hm
  case case2 => exact ⟨_, _, .done ‹_› ‹_›, asGoto _ _⟩
  case case3 => exact ⟨_, _, .nobuf ‹_› ‹_›, asFinish _ _⟩
  case case4 => exact ⟨_, _, .writeRefused ‹_› ‹_› ‹_›, asFinish _ _⟩
  case case5 => exact ⟨_, _, .write ‹_› ‹_› ‹_›, asSubmits _ _⟩
  case case6 => exact ⟨_, _, .data ‹_› ‹_›, asSubmits _ _⟩
  case case7 => exact ⟨_, _, .dataOwn ‹_› ‹_›, asSubmits _ _⟩
  case case8 => exact ⟨_, _, .openRefused ‹_› ‹_› ‹_›, by rw [asFinish, setTask_eq_put, put_self, put_put]⟩
  case case9 => exact ⟨_, _, .openChecked ‹_› ‹_› (nf ‹_›), asGoto _ _⟩
  case case10 =>
    unfold CS.enterClose
    split
    · exact ⟨_, _, .closeAgain ‹_› ‹_› ‹_›, asFinish _ _⟩
    · exact ⟨_, _, .closeStart ‹_› ‹_› (nf ‹_›), asGoto _ _⟩
  case case11 =>
    rename_i hr
    cases congrArg Prod.fst hr; cases congrArg (·.2.1) hr
    exact ⟨_, _, .register ‹_›, by rw [asSubmits, setTask_eq_put, put_self, put_put]; rfl⟩
  case case12 => exact ⟨_, _, .enterFree ‹_› ‹_›, asGoto _ _⟩
  case case13 => exact ⟨_, _, .enterHeld ‹_› ‹_›, asGoto _ _⟩
  case case15 => exact ⟨_, _, .lockedNil ‹_›, by rw [asFinish, (releaseBuf_goto _ t).2]⟩
  case case16 => exact ⟨_, _, .lockedClosed ‹_› ‹_›, by rw [asFinish, (releaseBuf_goto _ t).2]⟩
  case case17 =>
    cases List.isEmpty_iff.mp ‹List.isEmpty _ = true›
    exact ⟨_, _, .bufferLast ‹_› (nf ‹_›) ‹_›, by rw [asFinish, (releaseBuf_goto _ t).2]; rfl⟩
  case case18 =>
    obtain ⟨g, gs, rfl⟩ := List.exists_cons_of_ne_nil (mt List.isEmpty_iff.mpr ‹¬ List.isEmpty _ = true›)
    exact ⟨_, _, .bufferMore ‹_› (nf ‹_›) ‹_›, by rw [asGoto, (releaseBuf_goto _ t).1]; rfl⟩
  case case19 =>
    have hr := ‹Sess.prepare _ _ = _›
    cases congrArg Prod.fst hr; cases congrArg Prod.snd hr
    exact ⟨_, _, .prepare ‹_› (nf ‹_›) (nf ‹_›), asGoto _ _⟩
  case case20 =>
    unfold CS.lockWrWrite
    split
    · exact ⟨_, _, .preWrFree ‹_› ‹_›, asGoto _ _⟩
    · exact ⟨_, _, .preWrHeld ‹_› ‹_›, asGoto _ _⟩
  case case22 => exact ⟨_, _, .pieceNil ‹_›, by rw [asGoto, (releaseWr_goto _ t).1]⟩
  case case23 =>
    cases List.isEmpty_iff.mp ‹List.isEmpty _ = true›
    exact ⟨_, _, .pieceLast ‹_› ‹_›, by rw [asGoto, (releaseWr_goto _ t).1]; rfl⟩
  case case24 =>
    obtain ⟨q, ps, rfl⟩ := List.exists_cons_of_ne_nil (mt List.isEmpty_iff.mpr ‹¬ List.isEmpty _ = true›)
    exact ⟨_, _, .pieceMore ‹_› ‹_›, asGoto _ _⟩
  case case25 =>
    unfold CS.enterClose
    split
    · rename_i h; rw [releaseWr_s] at h
      exact ⟨_, _, .pieceFailed ‹_› ‹_› h, (asGoto _ _).trans (by rw [(releaseWr_goto _ t).1]; rfl)⟩
    · rename_i h; rw [releaseWr_s] at h
      refine ⟨_, _, .pieceFailedClose ‹_› ‹_› (nf h), (asGoto _ _).trans ?_⟩
      rw [releaseWr_s, ← releaseWr_with_s, (releaseWr_goto _ t).1]; rfl
  case case26 => exact ⟨_, _, .wdoneMore ‹_›, by rw [asGoto, (releaseBuf_goto _ t).1]⟩
  case case27 =>
    rename_i fs _ r hne _
    refine ⟨_, _, .wdoneLast ‹_› fun hr => ?_, by rw [asFinish, (releaseBuf_goto _ t).2]⟩
    subst hr
    match fs, hne with
    | [], _ => rfl
    | [_], _ => rfl
    | x :: g :: gs, hne => exact (hne x g gs rfl rfl).elim
  case case28 => exact ⟨_, _, .cflag ‹_›, asGoto _ _⟩
  case case29 => exact ⟨_, _, .cdrainedFree ‹_› ‹_›, asGoto _ _⟩
  case case30 => exact ⟨_, _, .cdrainedHeld ‹_› ‹_›, asGoto _ _⟩
  case case32 => exact ⟨_, _, .cshutOp ‹_›, by rw [asFinish, (releaseWr_goto _ t).2]; rfl⟩
  case case33 => exact ⟨_, _, .cshutInWrite ‹_›, by rw [asGoto, (releaseWr_goto _ t).1]; rfl⟩

@[simp] theorem put_s (c : CS) (t : Nat) (k : Task) : (c.put t k).s = c.s := rfl
@[simp] theorem put_log (c : CS) (t : Nat) (k : Task) : (c.put t k).log = c.log := rfl
@[simp] theorem put_bufHolder (c : CS) (t : Nat) (k : Task) : (c.put t k).bufHolder = c.bufHolder := rfl

/-! ### what a step does to the other tasks -/

/-- a state up to the lock hand-offs another task can cause -/
def PC.norm : PC → PC
  | .waitBuf fs => .locked fs
  | .waitWr ps fs => .piece ps fs
  | .cwait k => .cshut k
  | pc => pc

theorem norm_grantBuf (pc : PC) : pc.grantBuf.norm = pc.norm := by cases pc <;> rfl
theorem norm_grantWr (pc : PC) : pc.grantWr.norm = pc.norm := by cases pc <;> rfl

/-- what a step of task `t` may do to the other tasks: hand them a lock, nothing else -/
def SameOthers (t : Nat) (cs cs' : CS) : Prop :=
  ∀ u, u ≠ t → (cs'.task u).pc.norm = (cs.task u).pc.norm ∧ (cs'.task u).submitted = (cs.task u).submitted ∧
    (cs'.task u).ops = (cs.task u).ops ∧ (cs'.task u).results = (cs.task u).results ∧ (cs'.task u).sids = (cs.task u).sids

theorem SameOthers.rfl' (t : Nat) (cs : CS) : SameOthers t cs cs := fun _ _ => ⟨rfl, rfl, rfl, rfl, rfl⟩

namespace SameOthers
variable {t : Nat} {cs c : CS}

theorem base (h : c.tasks = cs.tasks) : SameOthers t cs c := fun u _ => by
  rw [show c.task u = cs.task u from congrFun h u]; exact ⟨rfl, rfl, rfl, rfl, rfl⟩

theorem put (h : SameOthers t cs c) (k : Task) : SameOthers t cs (c.put t k) := fun u hu => by
  rw [put_task, if_neg hu]; exact h u hu

theorem releaseBuf (h : SameOthers t cs c) : SameOthers t cs c.releaseBuf := fun u hu => by
  rw [releaseBuf_task]; split
  · simp only [norm_grantBuf]; exact h u hu
  · exact h u hu

theorem releaseWr (h : SameOthers t cs c) : SameOthers t cs c.releaseWr := fun u hu => by
  rw [releaseWr_task]; split
  · simp only [norm_grantWr]; exact h u hu
  · exact h u hu

end SameOthers

/-- what a step adds to the log: nothing, or the frame being accepted followed by whole padding frames -/
def GoodAdd (t : Nat) (add : List Unit') : Prop :=
  ∀ x ∈ add, x.owner = some t ∨ (x.owner = none ∧ ∃ pads : List Nat, x.bytes = flatten (pads.map wasteFrame))

/-- the padding scheme stays because M13 has no UpdatePaddingScheme: that is the receive loop, C19 -/
theorem Act.frame {cs c : CS} {t : Nat} {j k : Task} (h : Act cs t j c k) :
    SameOthers t cs c ∧ c.n = cs.n ∧ c.s.scheme = cs.s.scheme ∧ ∃ add, c.log = cs.log ++ add ∧ GoodAdd t add := by
  have nil {c : CS} (h : c.log = cs.log) : ∃ add, c.log = cs.log ++ add ∧ GoodAdd t add :=
    ⟨[], by rw [h, List.append_nil], nofun⟩
  have one (b : Bytes) : GoodAdd t [({ owner := some t, bytes := b } : Unit')] := fun x hx => by
    rw [List.mem_singleton] at hx; rw [hx]; exact Or.inl rfl
  induction h with
  | @prepare b =>
    obtain ⟨pads, _, hlog, _, _, _, _, hs⟩ := prepared_spec cs t b
    refine ⟨.base rfl, rfl, hs, _, hlog, fun x hx => ?_⟩
    rcases List.mem_cons.mp hx with hx | hx
    · rw [hx]; exact Or.inl rfl
    · split at hx
      · cases hx
      · rw [List.mem_singleton] at hx; rw [hx]; exact Or.inr ⟨rfl, pads, rfl⟩
  | pieceMore _ h => exact ⟨.base rfl, rfl, (transportWrite_spec h).2.2.2.2, nil rfl⟩
  | pieceLast _ h =>
    exact ⟨.releaseWr (.base rfl), releaseWr_n _, (congrArg Sess.scheme (releaseWr_s _)).trans (transportWrite_spec h).2.2.2.2,
      nil (releaseWr_log _)⟩
  -- the actions that end with a lock release: scheme and log are those before the release (`releaseBuf_s`, …), and these are
  -- `cs`'s by `rfl`
  | @bufferLast b | @bufferMore b =>
    exact ⟨.releaseBuf (.base rfl), releaseBuf_n _, (congrArg Sess.scheme (releaseBuf_s _)).trans rfl, [_], releaseBuf_log _, one b⟩
  | lockedNil | lockedClosed | wdoneMore | wdoneLast =>
    exact ⟨.releaseBuf (.base rfl), releaseBuf_n _, (congrArg Sess.scheme (releaseBuf_s _)).trans rfl, nil (releaseBuf_log _)⟩
  | pieceNil | pieceFailed | pieceFailedClose | cshutOp | cshutInWrite =>
    exact ⟨.releaseWr (.base rfl), releaseWr_n _, (congrArg Sess.scheme (releaseWr_s _)).trans rfl, nil (releaseWr_log _)⟩
  | _ => exact ⟨.base rfl, rfl, rfl, nil rfl⟩

theorem micro_others (hm : micro cs t = some cs') : SameOthers t cs cs' := by
  obtain ⟨c, k, h, rfl⟩ := micro_act hm
  exact h.frame.1.put k

theorem micro_n (hm : micro cs t = some cs') : cs'.n = cs.n := by
  obtain ⟨c, k, h, rfl⟩ := micro_act hm
  exact h.frame.2.1

theorem micro_scheme (hm : micro cs t = some cs') : cs'.s.scheme = cs.s.scheme := by
  obtain ⟨c, k, h, rfl⟩ := micro_act hm
  exact h.frame.2.2.1

theorem micro_log (hm : micro cs t = some cs') : ∃ add, cs'.log = cs.log ++ add ∧ GoodAdd t add := by
  obtain ⟨c, k, h, rfl⟩ := micro_act hm
  exact h.frame.2.2.2

/-- what a step of `t` does to `t`'s own stream ids and submission list -/
inductive SelfSub (k k' : Task) : Prop where
  | same (new : List Bytes) : k'.sids = k.sids → k'.submitted = k.submitted ++ new → SelfSub k k'
  | refused : k'.sids = k.sids ++ [none] → k'.submitted = k.submitted → SelfSub k k'
  | opened (sid : Nat) : k'.sids = k.sids ++ [some sid] → k'.submitted = k.submitted ++ [synBytes sid] → SelfSub k k'

theorem micro_selfsub (hm : micro cs t = some cs') : SelfSub (cs.task t) (cs'.task t) := by
  obtain ⟨c, k, h, rfl⟩ := micro_act hm
  rw [put_self]
  induction h with
  | openRefused => exact .refused rfl rfl
  | register => exact .opened _ rfl rfl
  | write | data | dataOwn => exact .same _ rfl rfl
  | _ => exact .same [] rfl (List.append_nil _).symm

def PC.closing : PC → Bool
  | .cflag _ | .cdrained _ | .cwait _ | .cshut _ => true
  | _ => false

theorem closing_norm (pc : PC) : pc.norm.closing = pc.closing := by cases pc <;> rfl

/-- What one action of `t` does to the closed flag, the transport and `t`'s being inside `close()`: nothing; or the flag
is set and `t` is inside `close()`; or the transport is shut down. -/
theorem micro_close (hm : micro cs t = some cs') :
    (cs'.s.closed = cs.s.closed ∧ cs'.s.shut = cs.s.shut ∧ (cs'.task t).pc.closing = (cs.task t).pc.closing) ∨
    (cs'.s.closed = true ∧ cs'.s.shut = cs.s.shut ∧ (cs'.task t).pc.closing = true) ∨
    (cs'.s.closed = cs.s.closed ∧ cs'.s.shut = true) := by
  obtain ⟨c, k, h, rfl⟩ := micro_act hm
  rw [put_self, put_s]
  induction h with
  | closeStart | pieceFailedClose => exact .inr (.inl ⟨by simp, by simp, rfl⟩)
  | cshutOp | cshutInWrite => exact .inr (.inr ⟨by simp, by simp⟩)
  | @prepare b _ h =>
    obtain ⟨_, _, _, _, _, h1, h2, _⟩ := prepared_spec cs t b
    exact .inl ⟨h1, h2, by rw [h]; rfl⟩
  | pieceLast h hw | pieceMore h hw =>
    obtain ⟨_, _, hc, hs, _⟩ := transportWrite_spec hw
    exact .inl ⟨by simp [hc], by simp [hs], by rw [h]; rfl⟩
  -- the others touch neither flag (`simp` looks through the lock release, if there is one) and go from a state outside
  -- `close()` to one outside, or from one inside to one inside
  | _ => exact .inl ⟨by simp <;> rfl, by simp <;> rfl, by rw [‹(cs.task t).pc = _›]; rfl⟩

theorem micro_closed_mono (hm : micro cs t = some cs') (hc : cs.s.closed = true) : cs'.s.closed = true := by
  rcases micro_close hm with e | e | e <;> first | exact e.1 | exact e.1 ▸ hc

end AnyTLS
