/-
The lock discipline of M13: holders and queues of the two FIFO mutexes agree with the states of the tasks (`LockInv`),
under every action; hence no deadlock (`progress`).  What is true of one FIFO mutex is proved once (`Fifo`).
-/
import AnyTLS.Lemmas.Conc.Step

namespace AnyTLS

/-! ### one FIFO mutex -/

/-- Holder and queue of a FIFO mutex agree with the states `pcs` of the tasks; `holds` / `waits` say which states
hold / wait for this mutex. -/
structure Fifo (holds waits : PC → Bool) (holder : Option Nat) (q : List Nat) (pcs : Nat → PC) : Prop where
  hold : ∀ t, holder = some t ↔ holds (pcs t) = true
  wait : ∀ t, t ∈ q ↔ waits (pcs t) = true
  nodup : q.Nodup
  idle : holder = none → q = []

def CS.pcs (cs : CS) (u : Nat) : PC := (cs.task u).pc

theorem put_pcs (c : CS) (t : Nat) (k : Task) (u : Nat) : (c.put t k).pcs u = if u = t then k.pc else c.pcs u := by
  unfold CS.pcs; rw [put_task]; split <;> rfl

namespace Fifo
variable {holds waits : PC → Bool} {holder : Option Nat} {q : List Nat} {pcs pcs' : Nat → PC} {c : CS} {t : Nat} {k : Task}

theorem frame (h : Fifo holds waits holder q pcs)
    (e : ∀ u, holds (pcs' u) = holds (pcs u) ∧ waits (pcs' u) = waits (pcs u)) : Fifo holds waits holder q pcs' :=
  ⟨fun u => by rw [(e u).1]; exact h.hold u, fun u => by rw [(e u).2]; exact h.wait u, h.nodup, h.idle⟩

theorem put (h : Fifo holds waits holder q c.pcs) (e : holds k.pc = holds (c.pcs t) ∧ waits k.pc = waits (c.pcs t)) :
    Fifo holds waits holder q (c.put t k).pcs := h.frame fun u => by
  rw [put_pcs]; split
  · rename_i eu; rw [eu]; exact e
  · exact ⟨rfl, rfl⟩

theorem acquire (h : Fifo holds waits none q c.pcs) (ht : holds k.pc = true ∧ waits k.pc = false) :
    Fifo holds waits (some t) q (c.put t k).pcs := by
  have hq : q = [] := h.idle rfl
  subst hq
  refine ⟨fun u => ?_, fun u => ?_, h.nodup, fun e => by cases e⟩ <;> rw [put_pcs] <;> by_cases e : u = t
  · subst e; simp [ht.1]
  · rw [if_neg e, ← h.hold u]; simp [Ne.symm e]
  · subst e; simp [ht.2]
  · rw [if_neg e]; exact h.wait u

theorem enqueue {x : Nat} (h : Fifo holds waits holder q c.pcs) (hx : holder = some x) (h0 : waits (c.pcs t) = false)
    (ht : holds k.pc = holds (c.pcs t) ∧ waits k.pc = true) : Fifo holds waits holder (q ++ [t]) (c.put t k).pcs := by
  refine ⟨fun u => ?_, fun u => ?_, ?_, fun e => by cases hx.symm.trans e⟩
  · rw [put_pcs]; split
    · rename_i e; rw [ht.1, ← e]; exact h.hold u
    · exact h.hold u
  · rw [List.mem_append, List.mem_singleton, put_pcs]
    by_cases e : u = t
    · subst e; simp [ht.2]
    · rw [if_neg e, ← h.wait u]; simp [e]
  · refine List.nodup_append.mpr ⟨h.nodup, by simp, fun a ha b hb e => ?_⟩
    rw [List.mem_singleton] at hb
    subst e; subst hb
    rw [(h.wait a).mp ha] at h0; cases h0

/-- in `c'` the first waiter, if any, has been granted the mutex (`grant` is what that does to its state) -/
theorem release {grant : PC → PC} {c' : CS} (h : Fifo holds waits (some t) q c.pcs) (h0 : waits (c.pcs t) = false)
    (hg : ∀ pc, waits pc = true → holds (grant pc) = true ∧ waits (grant pc) = false)
    (ht : holds k.pc = false ∧ waits k.pc = false)
    (hc' : ∀ u, c'.pcs u = if q.head? = some u then grant (c.pcs u) else c.pcs u) :
    Fifo holds waits q.head? q.tail (c'.put t k).pcs := by
  have hold : ∀ u, u ≠ t → holds (c.pcs u) = false := fun u e =>
    Bool.eq_false_iff.mpr fun hu => e (Option.some.inj ((h.hold u).mpr hu)).symm
  have ho : ∀ u, u ≠ t → (c'.put t k).pcs u = if q.head? = some u then grant (c.pcs u) else c.pcs u := fun u e => by
    rw [put_pcs, if_neg e, hc']
  have hs : (c'.put t k).pcs t = k.pc := by rw [put_pcs, if_pos rfl]
  cases q with
  | nil =>
    -- who holds: `t` does not, nor do the others; who waits: `t` does not, the others as before
    refine ⟨fun u => ?_, fun u => ?_, List.nodup_nil, fun _ => rfl⟩ <;> by_cases e : u = t
    · subst e; simp [hs, ht.1]
    · rw [ho u e, if_neg (by simp), hold u e]; simp
    · subst e; simp [hs, ht.2]
    · rw [ho u e, if_neg (by simp)]; exact h.wait u
  | cons w q =>
    have hww : waits (c.pcs w) = true := (h.wait w).mp List.mem_cons_self
    have hwt : w ≠ t := fun e => by rw [e, h0] at hww; cases hww
    obtain ⟨hnw, hnd⟩ := List.nodup_cons.mp h.nodup
    have gw : (c'.put t k).pcs w = grant (c.pcs w) := (ho w hwt).trans (if_pos rfl)
    have go : ∀ u, u ≠ t → u ≠ w → (c'.put t k).pcs u = c.pcs u := fun u e ew => by
      rw [ho u e, if_neg (by simpa using Ne.symm ew)]
    -- the same four, the others being the first waiter `w`, who now holds and no longer waits, and the rest
    refine ⟨fun u => ?_, fun u => ?_, hnd, fun e => by cases e⟩ <;> by_cases e : u = t
    · subst e; simp [hs, ht.1, hwt]
    · by_cases ew : u = w
      · subst ew; simp [gw, (hg _ hww).1]
      · rw [go u e ew, hold u e]; simp [Ne.symm ew]
    · subst e
      simp only [List.tail_cons, hs, ht.2, Bool.false_eq_true, iff_false]
      exact fun hm => by rw [(h.wait u).mp (List.mem_cons_of_mem _ hm)] at h0; cases h0
    · by_cases ew : u = w
      · subst ew; simp [gw, (hg _ hww).2, hnw]
      · rw [go u e ew, ← h.wait u]; simp [ew]

end Fifo

/-! ### the two locks of a session -/

def PC.holdsBuf : PC → Bool
  | .locked _ | .preWr _ _ | .waitWr _ _ | .piece _ _ | .wdone _ _ => true
  | .cflag (.inWrite _) | .cdrained (.inWrite _) | .cwait (.inWrite _) | .cshut (.inWrite _) => true
  | _ => false

def PC.holdsWr : PC → Bool
  | .piece _ _ | .cshut _ => true
  | _ => false

def PC.waitsBuf : PC → Bool | .waitBuf _ => true | _ => false
def PC.waitsWr : PC → Bool | .waitWr _ _ | .cwait _ => true | _ => false

/-- `Fifo` for each of the two locks (`lockInv_iff`), written out so that the clauses can be read by name -/
structure LockInv (cs : CS) : Prop where
  bh : ∀ t, cs.bufHolder = some t ↔ (cs.task t).pc.holdsBuf = true
  bq : ∀ t, t ∈ cs.bufQ ↔ (cs.task t).pc.waitsBuf = true
  bn : cs.bufQ.Nodup
  b0 : cs.bufHolder = none → cs.bufQ = []
  wh : ∀ t, cs.wrHolder = some t ↔ (cs.task t).pc.holdsWr = true
  wq : ∀ t, t ∈ cs.wrQ ↔ (cs.task t).pc.waitsWr = true
  wn : cs.wrQ.Nodup
  w0 : cs.wrHolder = none → cs.wrQ = []

theorem lockInv_iff (cs : CS) : LockInv cs ↔
    Fifo PC.holdsBuf PC.waitsBuf cs.bufHolder cs.bufQ cs.pcs ∧ Fifo PC.holdsWr PC.waitsWr cs.wrHolder cs.wrQ cs.pcs :=
  ⟨fun h => ⟨⟨h.bh, h.bq, h.bn, h.b0⟩, ⟨h.wh, h.wq, h.wn, h.w0⟩⟩, fun ⟨b, w⟩ => ⟨b.hold, b.wait, b.nodup, b.idle, w.hold, w.wait, w.nodup, w.idle⟩⟩

theorem LockInv.buf {cs : CS} (h : LockInv cs) : Fifo PC.holdsBuf PC.waitsBuf cs.bufHolder cs.bufQ cs.pcs := ((lockInv_iff cs).mp h).1
theorem LockInv.wr {cs : CS} (h : LockInv cs) : Fifo PC.holdsWr PC.waitsWr cs.wrHolder cs.wrQ cs.pcs := ((lockInv_iff cs).mp h).2

def CS.locks (cs : CS) : Option Nat × List Nat × Option Nat × List Nat := (cs.bufHolder, cs.bufQ, cs.wrHolder, cs.wrQ)

/-- the lock class of a state: what the two locks see of it -/
def PC.cls (pc : PC) : Bool × Bool × Bool × Bool := (pc.holdsBuf, pc.holdsWr, pc.waitsBuf, pc.waitsWr)

theorem cls_eq {a : PC} {x : Bool × Bool × Bool × Bool} (h : a.cls = x) :
    a.holdsBuf = x.1 ∧ a.holdsWr = x.2.1 ∧ a.waitsBuf = x.2.2.1 ∧ a.waitsWr = x.2.2.2 := by
  subst h; exact ⟨rfl, rfl, rfl, rfl⟩

theorem LockInv.of_eq {cs c : CS} (h : LockInv cs) (hp : ∀ u, (c.pcs u).cls = (cs.pcs u).cls) (e : c.locks = cs.locks) :
    LockInv c := by
  simp only [CS.locks, Prod.mk.injEq] at e
  obtain ⟨e1, e2, e3, e4⟩ := e
  refine (lockInv_iff c).mpr ?_
  rw [e1, e2, e3, e4]
  exact ⟨h.buf.frame fun u => ⟨(cls_eq (hp u)).1, (cls_eq (hp u)).2.2.1⟩,
    h.wr.frame fun u => ⟨(cls_eq (hp u)).2.1, (cls_eq (hp u)).2.2.2⟩⟩

theorem grantBuf_wr (pc : PC) : pc.grantBuf.holdsWr = pc.holdsWr ∧ pc.grantBuf.waitsWr = pc.waitsWr := by
  cases pc <;> exact ⟨rfl, rfl⟩
theorem grantWr_buf (pc : PC) : pc.grantWr.holdsBuf = pc.holdsBuf ∧ pc.grantWr.waitsBuf = pc.waitsBuf := by
  cases pc <;> first | exact ⟨rfl, rfl⟩ | (rename_i k; cases k <;> exact ⟨rfl, rfl⟩)
theorem grantBuf_buf (pc : PC) (h : pc.waitsBuf = true) : pc.grantBuf.holdsBuf = true ∧ pc.grantBuf.waitsBuf = false := by
  cases pc <;> first | exact ⟨rfl, rfl⟩ | cases h
theorem grantWr_wr (pc : PC) (h : pc.waitsWr = true) : pc.grantWr.holdsWr = true ∧ pc.grantWr.waitsWr = false := by
  cases pc <;> first | exact ⟨rfl, rfl⟩ | cases h

theorem holdsBuf_not_waitsBuf {pc : PC} (h : pc.holdsBuf = true) : pc.waitsBuf = false := by
  cases pc <;> first | rfl | cases h
theorem holdsWr_not_waitsWr {pc : PC} (h : pc.holdsWr = true) : pc.waitsWr = false := by
  cases pc <;> first | rfl | cases h

theorem releaseBuf_pcs (cs : CS) (u : Nat) :
    cs.releaseBuf.pcs u = if cs.bufQ.head? = some u then (cs.pcs u).grantBuf else cs.pcs u := by
  unfold CS.pcs; rw [releaseBuf_task]; split <;> rfl
theorem releaseWr_pcs (cs : CS) (u : Nat) :
    cs.releaseWr.pcs u = if cs.wrQ.head? = some u then (cs.pcs u).grantWr else cs.pcs u := by
  unfold CS.pcs; rw [releaseWr_task]; split <;> rfl

theorem releaseBuf_lock (cs : CS) : cs.releaseBuf.bufHolder = cs.bufQ.head? ∧ cs.releaseBuf.bufQ = cs.bufQ.tail := by
  rw [releaseBuf_eq]; cases cs.bufQ <;> exact ⟨rfl, rfl⟩
theorem releaseWr_lock (cs : CS) : cs.releaseWr.wrHolder = cs.wrQ.head? ∧ cs.releaseWr.wrQ = cs.wrQ.tail := by
  rw [releaseWr_eq]; cases cs.wrQ <;> exact ⟨rfl, rfl⟩

namespace LockInv
variable {cs : CS} {t : Nat} {k : Task} {pc : PC}

/-! In the lemmas from `keep` to `relWr`, `hc` is the lock class of the state `t` goes on in, written against that of its
state `pc` before: the two entries of the lock in question change, the other two stay. -/

theorem keep (h : LockInv cs) (hpc : cs.pcs t = pc) (hc : k.pc.cls = pc.cls) : LockInv (cs.put t k) := by
  obtain ⟨c1, c2, c3, c4⟩ := cls_eq (hpc ▸ hc)
  exact (lockInv_iff _).mpr ⟨h.buf.put ⟨c1, c3⟩, h.wr.put ⟨c2, c4⟩⟩

theorem acqBuf (h : LockInv cs) (hfree : cs.bufHolder = none) (hpc : cs.pcs t = pc)
    (hc : k.pc.cls = (true, pc.holdsWr, false, pc.waitsWr)) : LockInv ({ cs with bufHolder := some t }.put t k) := by
  obtain ⟨c1, c2, c3, c4⟩ := cls_eq (hpc ▸ hc)
  exact (lockInv_iff _).mpr ⟨(hfree ▸ h.buf).acquire ⟨c1, c3⟩, h.wr.put ⟨c2, c4⟩⟩

theorem enqBuf {x : Nat} (h : LockInv cs) (hheld : cs.bufHolder = some x) (hpc : cs.pcs t = pc)
    (h0 : pc.waitsBuf = false) (hc : k.pc.cls = (pc.holdsBuf, pc.holdsWr, true, pc.waitsWr)) :
    LockInv ({ cs with bufQ := cs.bufQ ++ [t] }.put t k) := by
  obtain ⟨c1, c2, c3, c4⟩ := cls_eq (hpc ▸ hc)
  exact (lockInv_iff _).mpr ⟨h.buf.enqueue hheld (hpc ▸ h0) ⟨c1, c3⟩, h.wr.put ⟨c2, c4⟩⟩

theorem relBuf (h : LockInv cs) (hpc : cs.pcs t = pc) (h0 : pc.holdsBuf = true)
    (hc : k.pc.cls = (false, pc.holdsWr, false, pc.waitsWr)) : LockInv (cs.releaseBuf.put t k) := by
  subst hpc
  obtain ⟨c1, c2, c3, c4⟩ := cls_eq hc
  have hb := ((h.bh t).mpr h0 ▸ h.buf).release (holdsBuf_not_waitsBuf h0) grantBuf_buf ⟨c1, c3⟩ (releaseBuf_pcs cs)
  rw [← (releaseBuf_lock cs).1, ← (releaseBuf_lock cs).2] at hb
  have hw : Fifo PC.holdsWr PC.waitsWr cs.releaseBuf.wrHolder cs.releaseBuf.wrQ cs.releaseBuf.pcs :=
    Fifo.frame (by simpa using h.wr) fun u => by
      rw [releaseBuf_pcs]; split
      · exact grantBuf_wr _
      · exact ⟨rfl, rfl⟩
  refine (lockInv_iff _).mpr ⟨hb, hw.put ?_⟩
  rw [releaseBuf_pcs]; split
  · exact ⟨c2.trans (grantBuf_wr _).1.symm, c4.trans (grantBuf_wr _).2.symm⟩
  · exact ⟨c2, c4⟩

theorem acqWr (h : LockInv cs) (hfree : cs.wrHolder = none) (hpc : cs.pcs t = pc)
    (hc : k.pc.cls = (pc.holdsBuf, true, pc.waitsBuf, false)) : LockInv ({ cs with wrHolder := some t }.put t k) := by
  obtain ⟨c1, c2, c3, c4⟩ := cls_eq (hpc ▸ hc)
  exact (lockInv_iff _).mpr ⟨h.buf.put ⟨c1, c3⟩, (hfree ▸ h.wr).acquire ⟨c2, c4⟩⟩

theorem enqWr {x : Nat} (h : LockInv cs) (hheld : cs.wrHolder = some x) (hpc : cs.pcs t = pc)
    (h0 : pc.waitsWr = false) (hc : k.pc.cls = (pc.holdsBuf, pc.holdsWr, pc.waitsBuf, true)) :
    LockInv ({ cs with wrQ := cs.wrQ ++ [t] }.put t k) := by
  obtain ⟨c1, c2, c3, c4⟩ := cls_eq (hpc ▸ hc)
  exact (lockInv_iff _).mpr ⟨h.buf.put ⟨c1, c3⟩, h.wr.enqueue hheld (hpc ▸ h0) ⟨c2, c4⟩⟩

theorem relWr (h : LockInv cs) (hpc : cs.pcs t = pc) (h0 : pc.holdsWr = true)
    (hc : k.pc.cls = (pc.holdsBuf, false, pc.waitsBuf, false)) : LockInv (cs.releaseWr.put t k) := by
  subst hpc
  obtain ⟨c1, c2, c3, c4⟩ := cls_eq hc
  have hw := ((h.wh t).mpr h0 ▸ h.wr).release (holdsWr_not_waitsWr h0) grantWr_wr ⟨c2, c4⟩ (releaseWr_pcs cs)
  rw [← (releaseWr_lock cs).1, ← (releaseWr_lock cs).2] at hw
  have hb : Fifo PC.holdsBuf PC.waitsBuf cs.releaseWr.bufHolder cs.releaseWr.bufQ cs.releaseWr.pcs :=
    Fifo.frame (by simpa using h.buf) fun u => by
      rw [releaseWr_pcs]; split
      · exact grantWr_buf _
      · exact ⟨rfl, rfl⟩
  refine (lockInv_iff _).mpr ⟨hb.put ?_, hw⟩
  rw [releaseWr_pcs]; split
  · exact ⟨c1.trans (grantWr_buf _).1.symm, c3.trans (grantWr_buf _).2.symm⟩
  · exact ⟨c1, c3⟩

end LockInv

theorem LockInv_micro {cs cs' : CS} {t : Nat} (h : LockInv cs) (hm : micro cs t = some cs') : LockInv cs' := by
  obtain ⟨c, k, ha, rfl⟩ := micro_act hm
  induction ha with
  -- no lock is touched and `t` stays in its lock class (`of_eq`: what else changes is the session, the log or `failed`)
  | done hpc | writeRefused hpc | write hpc | data hpc | dataOwn hpc | openRefused hpc | openChecked hpc | closeAgain hpc
  | nobuf hpc | closeStart hpc | register hpc | prepare hpc | pieceMore hpc => exact .keep (h.of_eq (fun _ => rfl) rfl) hpc rfl
  | @cflag k hpc => exact .keep (h.of_eq (fun _ => rfl) rfl) hpc (by cases k <;> rfl)
  | enterFree hpc hf => exact h.acqBuf hf hpc rfl
  | enterHeld hpc hh => exact h.enqBuf hh hpc rfl rfl
  | lockedNil hpc | lockedClosed hpc | wdoneMore hpc | wdoneLast hpc | bufferLast hpc | bufferMore hpc =>
    exact .relBuf (h.of_eq (fun _ => rfl) rfl) hpc rfl rfl
  -- the writer lock is taken by a writer and by `close()`
  | preWrFree hpc hf => exact h.acqWr hf hpc rfl
  | preWrHeld hpc hh => exact h.enqWr hh hpc rfl rfl
  | @cdrainedFree k hpc hf => exact h.acqWr hf hpc (by cases k <;> rfl)
  | @cdrainedHeld k _ hpc hh => exact h.enqWr hh hpc rfl (by cases k <;> rfl)
  | pieceNil hpc | pieceLast hpc | pieceFailed hpc | pieceFailedClose hpc | cshutOp hpc | cshutInWrite hpc =>
    exact .relWr (h.of_eq (fun _ => rfl) rfl) hpc rfl rfl

/-! ### no deadlock -/

theorem micro_none (cs : CS) (t : Nat) (h : micro cs t = none) : (cs.task t).pc = .fin ∨ (cs.task t).pc.blocked = true := by
  revert h
  fun_cases micro cs t <;> intro h
  -- of the branches of `micro`, numbered from the top, the first (`fin`) and those of `waitBuf`, `waitWr`, `cwait` return `none`
  case case1 => exact .inl ‹_›
  case case14 | case21 | case31 => exact .inr (by rw [‹(cs.task t).pc = _›]; rfl)
  all_goals cases h

theorem micro_enabled (cs : CS) (t : Nat) (hf : (cs.task t).pc ≠ .fin) (hb : (cs.task t).pc.blocked = false) :
    ∃ cs', micro cs t = some cs' := by
  cases hm : micro cs t with
  | some c => exact ⟨c, rfl⟩
  | none =>
    rcases micro_none cs t hm with e | e
    · exact absurd e hf
    · rw [hb] at e; cases e

theorem blocked_iff (pc : PC) : pc.blocked = true ↔ (pc.waitsBuf = true ∨ pc.waitsWr = true) := by
  cases pc <;> simp [PC.blocked, PC.waitsBuf, PC.waitsWr]

theorem holdsWr_enabled (pc : PC) (h : pc.holdsWr = true) : pc ≠ .fin ∧ pc.blocked = false := by
  cases pc <;> first | (cases h; done) | exact ⟨(fun e => by cases e), rfl⟩

/-- what T9.2 (`C09.no_deadlock`) rests on -/
theorem progress (cs : CS) (h : LockInv cs) (t : Nat) (ht : (cs.task t).pc ≠ .fin) : ∃ u cs', micro cs u = some cs' := by
  -- the holder of the writer lock can always run
  have wr : ∀ u, (cs.task u).pc.waitsWr = true → ∃ v cs', micro cs v = some cs' := by
    intro u hu
    have hq : u ∈ cs.wrQ := (h.wq u).mpr hu
    cases hh : cs.wrHolder with
    | none => rw [h.w0 hh] at hq; cases hq
    | some v =>
      obtain ⟨h1, h2⟩ := holdsWr_enabled _ ((h.wh v).mp hh)
      exact ⟨v, micro_enabled cs v h1 h2⟩
  cases hb : (cs.task t).pc.blocked with
  | false => exact ⟨t, micro_enabled cs t ht hb⟩
  | true =>
    rcases (blocked_iff _).mp hb with hw | hw
    · -- waits for the buffer lock: its holder runs, or waits for the writer lock, whose holder runs
      have hq : t ∈ cs.bufQ := (h.bq t).mpr hw
      cases hh : cs.bufHolder with
      | none => rw [h.b0 hh] at hq; cases hq
      | some v =>
        have hv := (h.bh v).mp hh
        have hvf : (cs.task v).pc ≠ .fin := by intro e; rw [e] at hv; cases hv
        cases hvb : (cs.task v).pc.blocked with
        | false => exact ⟨v, micro_enabled cs v hvf hvb⟩
        | true =>
          rcases (blocked_iff _).mp hvb with h1 | h1
          · rw [holdsBuf_not_waitsBuf hv] at h1; cases h1
          · exact wr v h1
    · exact wr t hw

end AnyTLS
