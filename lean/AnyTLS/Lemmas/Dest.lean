/-
Lemmas about M6 (`Model/Dest.lean`): what the reader combinators return on a well-formed reader state whose deliverable
bytes start with a given image (`rdX_prefix`, from `readExact_spec`: any chunking), then one `*_spec` per decoder built
from them; at the end the resolver cache (`dnsResolve_some`).
-/
import AnyTLS.Model.Dest
import AnyTLS.Lemmas.Reader
import AnyTLS.Lemmas.Frame

namespace AnyTLS

theorem rdX_prefix {r : RState} {a rest : Bytes} (hwf : r.WF) (hp : r.pending = a ++ rest) :
    ∃ r', rdX r a.length = (.ok a, r') ∧ r'.pending = rest ∧ r'.WF := by
  obtain ⟨r', he, hp', hw, _⟩ := readExact_spec r a.length hwf (by rw [hp]; simp)
  refine ⟨r', ?_, ?_, hw⟩
  · simp [rdX, he, hp]
  · rw [hp', hp]; simp

theorem rdX_one {r : RState} {b : UInt8} {rest : Bytes} (hwf : r.WF) (hp : r.pending = b :: rest) :
    ∃ r', rdX r 1 = (.ok [b], r') ∧ r'.pending = rest ∧ r'.WF :=
  rdX_prefix (a := [b]) hwf hp

theorem portOf_be16 (p : Nat) (h : p < 65536) : portOf (be16 p) = p := rd16_ofNat p h

theorem portOf_be16_append (p : Nat) (h : p < 65536) (rest : Bytes) : portOf (be16 p ++ rest) = p :=
  portOf_be16 p h

theorem readAddrPort_spec {r : RState} {a rest : Bytes} {p alen : Nat} (mk : Bytes → Nat → Dest)
    (hwf : r.WF) (hal : a.length = alen) (hp : p < 65536) (hpend : r.pending = a ++ be16 p ++ rest) :
    ∃ r', readAddrPort r alen mk = (.ok (mk a p), r') ∧ r'.pending = rest ∧ r'.WF := by
  obtain ⟨r1, e1, hp1, hw1⟩ := rdX_prefix hwf (hpend.trans (List.append_assoc a _ rest))
  obtain ⟨r2, e2, hp2, hw2⟩ := rdX_prefix hw1 hp1
  exact ⟨r2, by simp [readAddrPort, ← hal, e1, be16_length p ▸ e2, portOf_be16 p hp], hp2, hw2⟩

theorem readDomainPort_spec {r : RState} {d rest : Bytes} {p : Nat}
    (hwf : r.WF) (h1 : 1 ≤ d.length) (h2 : d.length ≤ 255) (hu : validUtf8 d = true) (hp : p < 65536)
    (hpend : r.pending = UInt8.ofNat d.length :: d ++ be16 p ++ rest) :
    ∃ r', readDomainPort r = (.ok (.domain d p), r') ∧ r'.pending = rest ∧ r'.WF := by
  obtain ⟨r1, e1, hp1, hw1⟩ := rdX_one hwf hpend
  obtain ⟨r2, e2, hp2, hw2⟩ := rdX_prefix hw1 (hp1.trans (List.append_assoc d _ rest))
  obtain ⟨r3, e3, hp3, hw3⟩ := rdX_prefix hw2 hp2
  have hlen : (UInt8.ofNat d.length).toNat = d.length := UInt8.toNat_ofNat_of_lt' (Nat.lt_of_le_of_lt h2 (by decide))
  exact ⟨r3, by simp [readDomainPort, e1, hlen, Nat.ne_of_gt h1, e2, hu, be16_length p ▸ e3, portOf_be16 p hp], hp3, hw3⟩

/-- the address-type byte of a destination, as the stream header, the UDP request and the SOCKS5 request carry it -/
def Dest.atyp : Dest → UInt8
  | .v4 _ _ => 1
  | .v6 _ _ => 4
  | .domain _ _ => 3

/-- the bytes after the address-type byte: address (a domain with its length byte) and port -/
def Dest.body : Dest → Bytes
  | .v4 a p => a ++ be16 p
  | .v6 a p => a ++ be16 p
  | .domain d p => UInt8.ofNat d.length :: d ++ be16 p

theorem encodeDest_of_wf {d : Dest} (hd : d.WF) : encodeDest d = some (d.atyp :: d.body) := by
  cases d with
  | v4 a p | v6 a p => rfl
  | domain dn p => exact if_neg (Nat.not_lt.mpr hd.2.1)

theorem encodeUdpRequest_some {d : Dest} {enc : Bytes} (h : encodeUdpRequest d = some enc) :
    enc = 1 :: d.atyp :: d.body := by
  cases d with
  | v4 a p | v6 a p => exact (Option.some.inj h).symm
  | domain dn p => cases h

theorem readByAtyp_spec {d : Dest} (hd : d.WF) {rest : Bytes} {r : RState} (hwf : r.WF)
    (hpend : r.pending = d.body ++ rest) :
    ∃ r', readByAtyp r d.atyp = (.ok d, r') ∧ r'.pending = rest ∧ r'.WF := by
  cases d with
  | v4 a p =>
    rw [Dest.atyp, readByAtyp, if_pos (by decide)]
    exact readAddrPort_spec .v4 hwf hd.1 hd.2 hpend
  | v6 a p =>
    rw [Dest.atyp, readByAtyp, if_neg (by decide), if_pos (by decide)]
    exact readAddrPort_spec .v6 hwf hd.1 hd.2 hpend
  | domain dn p =>
    rw [Dest.atyp, readByAtyp, if_neg (by decide), if_neg (by decide), if_pos (by decide)]
    exact readDomainPort_spec hwf hd.1 hd.2.1 hd.2.2.1 hd.2.2.2 hpend

/-- `d = []` is the end marker `00 00`: both branches of `readDgram` give the same answer -/
theorem readDgram_spec {d rest : Bytes} (h : d.length ≤ 65535) {r : RState} (hwf : r.WF)
    (hpend : r.pending = be16 d.length ++ d ++ rest) :
    ∃ r', readDgram r = (.ok d, r') ∧ r'.pending = rest ∧ r'.WF := by
  obtain ⟨r1, e1, hp1, hw1⟩ := rdX_prefix hwf (hpend.trans (List.append_assoc _ d rest))
  rw [be16_length] at e1
  rw [readDgram, e1]
  simp only [portOf_be16 d.length (by omega)]
  cases d with
  | nil => exact ⟨r1, rfl, hp1, hw1⟩
  | cons x xs => exact rdX_prefix hw1 hp1

theorem read1_spec {r : RState} {b : UInt8} {rest : Bytes} (hwf : r.WF) (hpend : r.pending = b :: rest) :
    ∃ r', r.read 1 = (.data [b], r') ∧ r'.pending = rest ∧ r'.WF := by
  rcases hr : r.read 1 with ⟨x | _ | _, r'⟩ <;> have hs := read_spec Nat.one_ne_zero hwf hr <;> rw [hpend] at hs
  · obtain ⟨hne, hlen, hcat, _, hw⟩ := hs
    cases x with
    | nil => exact absurd rfl hne
    | cons y ys =>
      obtain rfl : ys = [] := List.eq_nil_of_length_eq_zero (Nat.le_zero.mp (Nat.le_of_succ_le_succ hlen))
      injection hcat with hy hrest
      exact ⟨r', by rw [hy], hrest, hw⟩
  · exact absurd hs.1 (List.cons_ne_nil _ _)
  · exact absurd hs.2.1 (List.cons_ne_nil _ _)

theorem dnsResolve_some {c : DnsCache} {host : Bytes} {port : Nat} {lookup : List Bytes} {ip : Bytes} {p' : Nat}
    (h : (dnsResolve c host port lookup).2 = some (ip, p')) :
    p' = port ∧
    (ip ∈ lookup ∨ ∃ e, dnsFind c host = some e ∧ e.expired = false ∧ ip ∈ e.addrs.map (·.1)) := by
  unfold dnsResolve at h
  have miss : (dnsResolve.resolveMiss c host port lookup).2 = some (ip, p') → p' = port ∧ ip ∈ lookup := by
    intro hm
    unfold dnsResolve.resolveMiss at hm
    cases lookup with
    | nil => cases hm
    | cons x xs => obtain ⟨rfl, rfl⟩ := Prod.mk.inj (Option.some.inj hm); exact ⟨rfl, List.mem_cons_self⟩
  split at h
  · rename_i e he
    split at h
    · rename_i hc
      simp only [Bool.and_eq_true, Bool.not_eq_true', List.isEmpty_eq_false_iff] at hc
      obtain ⟨rfl, rfl⟩ := Prod.mk.inj (Option.some.inj h)
      have hlt := Nat.mod_lt e.next (List.length_pos_iff.mpr hc.2)
      exact ⟨rfl, .inr ⟨e, he, hc.1, List.mem_map_of_mem (by rw [List.getD_eq_getElem?_getD, List.getElem?_eq_getElem hlt]; exact List.getElem_mem hlt)⟩⟩
    · exact (miss h).imp_right .inl
  · exact (miss h).imp_right .inl

end AnyTLS
