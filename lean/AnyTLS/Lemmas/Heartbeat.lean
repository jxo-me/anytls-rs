/- Lemmas about M12 (`Model/Heartbeat.lean`): what one instant does, the invariant of every run (only dead sessions
are closed), and how a run goes on once nothing arrives any more (dead sessions are closed). -/
import AnyTLS.Model.Heartbeat

namespace AnyTLS.Heartbeat

variable {I T : Nat} {r : Nat → Option Nat}

/-- the mark after the tick of instant `t`, if the mark before is `p`: `p` itself if there is one, else the tick's -/
def Marks (I : Nat) (p : Option Nat) (t s : Nat) : Prop := p = some s ∨ p = none ∧ t % I = 0 ∧ s = t

section
variable {st : HB} {t : Nat}

theorem instant_closed {c : Nat} (hc : st.closedAt = some c) : instant I T r st t = st := by
  simp only [instant, hc]

theorem instant_mark {s : Nat} (hc : st.closedAt = none) (ha : arrivesAt I r t = false) (hs : Marks I st.pending t s) :
    instant I T r st t = { pending := some s, closedAt := if s + T ≤ t then some t else none } := by
  rcases hs with hp | ⟨hp, ht, rfl⟩ <;>
    simp only [instant, *, beq_self_eq_true, Bool.false_eq_true, if_false, if_true, ite_self] <;> split <;> rfl

end

theorem closed_stays {t t' c : Nat} (h : (hbRun I T r t).closedAt = some c) (hle : t ≤ t') :
    (hbRun I T r t').closedAt = some c := by
  induction hle with
  | refl => exact h
  | step _ ih => exact (congrArg HB.closedAt (instant_closed ih)).trans ih

theorem arrivesAt_of {k d : Nat} (h : r k = some d) (hI : 0 < I) : arrivesAt I r (k * I + d) = true := by
  rw [arrivesAt, List.any_eq_true]
  exact ⟨k, List.mem_range.mpr (Nat.lt_succ_of_le ((Nat.le_div_iff_mul_le hI).mpr (Nat.le_add_right ..))), by simp [h]⟩

/-- `s` is the send time of a request whose answer has not arrived before `t` (`s ≤ t` and not `<`, so that the
request of a tick is outstanding at the tick itself: one step lemma then serves old marks and new) -/
def Outstanding (I : Nat) (r : Nat → Option Nat) (t s : Nat) : Prop :=
  s ≤ t ∧ ∃ k, s = k * I ∧ ∀ d, r k = some d → t ≤ s + d

theorem outstanding_mark {t s : Nat} {p : Option Nat} (hI : 0 < I) (ha : arrivesAt I r t = false)
    (hs : Marks I p t s) (h : ∀ s, p = some s → Outstanding I r t s) :
    Outstanding I r (t + 1) s := by
  obtain ⟨hle, k, hk, hd⟩ : Outstanding I r t s := hs.elim (h s) fun ⟨_, ht, e⟩ => by
    subst e
    exact ⟨Nat.le_refl _, _, (Nat.div_mul_cancel (Nat.dvd_of_mod_eq_zero ht)).symm, fun _ _ => Nat.le_add_right ..⟩
  refine ⟨Nat.le_succ_of_le hle, k, hk, fun d hr => ?_⟩
  have := hd d hr
  have : k * I + d ≠ t := fun e => by rw [← e, arrivesAt_of hr hI] at ha; cases ha
  omega

/-- the invariant of every run, whatever the peer does: the pending mark of an open session is outstanding, and a
session closed at `c` had a request outstanding for at least `T` that was still unanswered at `c` -/
def Sound (I T : Nat) (r : Nat → Option Nat) (t : Nat) (st : HB) : Prop :=
  (st.closedAt = none → ∀ s, st.pending = some s → Outstanding I r t s) ∧
    ∀ c, st.closedAt = some c → ∃ s, Outstanding I r (c + 1) s ∧ s + T ≤ c

theorem sound_step {t : Nat} {st : HB} (hI : 0 < I) (h : Sound I T r t st) :
    Sound I T r (t + 1) (instant I T r st t) := by
  obtain ⟨p, c⟩ := st
  cases c with
  | some c => rw [instant_closed rfl]; exact ⟨nofun, h.2⟩
  | none =>
    cases ha : arrivesAt I r t with
    | true => simp only [instant, ha, if_true]; exact ⟨fun _ => nofun, nofun⟩
    | false =>
      have mark : ∀ s, Marks I p t s → Sound I T r (t + 1) (instant I T r ⟨p, none⟩ t) := fun s hs => by
        have ho := outstanding_mark hI ha hs (h.1 rfl)
        rw [instant_mark rfl ha hs]
        refine ⟨fun _ s' hs' => by cases hs'; exact ho, fun c hc => ?_⟩
        split at hc
        next hd => cases hc; exact ⟨s, ho, hd⟩
        next => cases hc
      cases p with
      | some s => exact mark s (.inl rfl)
      | none =>
        by_cases ht : t % I = 0
        · exact mark t (.inr ⟨rfl, ht, rfl⟩)
        · simp only [instant, ha, ht, beq_iff_eq, Bool.false_eq_true, if_false]; exact ⟨fun _ => nofun, nofun⟩

theorem hbRun_sound (hI : 0 < I) : ∀ t, Sound I T r t (hbRun I T r t)
  | 0 => ⟨fun _ => nofun, nofun⟩
  | t + 1 => sound_step hI (hbRun_sound hI t)

/-- C14's "only dead sessions are closed", with no assumption on the peer -/
theorem closed_only_dead (hI : 0 < I) {t c : Nat} (h : (hbRun I T r t).closedAt = some c) :
    ∃ s, Outstanding I r (c + 1) s ∧ s + T ≤ c :=
  (hbRun_sound hI t).2 c h

theorem pending_run {t0 s : Nat} (hst : (hbRun I T r t0).closedAt = none) (hp : (hbRun I T r t0).pending = some s)
    (hsil : ∀ t, t0 ≤ t → arrivesAt I r t = false) (n : Nat) :
    hbRun I T r (t0 + n) =
      { pending := some s, closedAt := if t0 + n ≤ max t0 (s + T) then none else some (max t0 (s + T)) } := by
  induction n with
  | zero =>
    rw [Nat.add_zero, if_pos (Nat.le_max_left ..)]
    cases h : hbRun I T r t0; rw [h] at hst hp; cases hst; cases hp; rfl
  | succ n ih =>
    rw [← Nat.add_assoc]
    show instant I T r (hbRun I T r (t0 + n)) (t0 + n) = _
    rw [ih]
    by_cases h : t0 + n ≤ max t0 (s + T)
    · rw [if_pos h, instant_mark rfl (hsil _ (Nat.le_add_right ..)) (.inl rfl)]
      by_cases hd : s + T ≤ t0 + n
      · rw [if_pos hd, Nat.le_antisymm h (Nat.max_le.mpr ⟨Nat.le_add_right .., hd⟩), if_neg (Nat.not_succ_le_self _)]
      · rw [if_neg hd, if_pos (Nat.le_trans (Nat.lt_of_not_le hd) (Nat.le_max_right ..))]
    · rw [if_neg h, instant_closed rfl, if_neg fun h' => h (Nat.le_of_succ_le h')]

theorem next_tick (hI : 0 < I) (t0 : Nat) : ∃ m, m % I = 0 ∧ t0 ≤ m ∧ m < t0 + I := by
  have h1 := Nat.div_add_mod (t0 + I - 1) I
  have h2 := Nat.mod_lt (t0 + I - 1) hI
  exact ⟨I * ((t0 + I - 1) / I), Nat.mul_mod_right _ _, by omega⟩

theorem silent_closes (hI : 0 < I) (t0 : Nat) (hsil : ∀ t, t0 ≤ t → arrivesAt I r t = false) :
    ∃ c, (hbRun I T r (t0 + I + T)).closedAt = some c := by
  obtain ⟨m, hm, h0, h1⟩ := next_tick hI t0
  have h2 : m + 1 ≤ t0 + I + T := Nat.le_add_right_of_le h1
  cases hc : (hbRun I T r m).closedAt with
  | some c => exact ⟨c, closed_stays hc (Nat.le_of_succ_le h2)⟩
  | none =>
    -- after the tick at `m` a mark is pending: an older one, or the one the tick sets
    obtain ⟨s, hs, hle⟩ : ∃ s, Marks I (hbRun I T r m).pending m s ∧ s ≤ m := by
      cases hp : (hbRun I T r m).pending with
      | none => exact ⟨m, .inr ⟨rfl, hm, rfl⟩, Nat.le_refl m⟩
      | some s => exact ⟨s, .inl rfl, ((hbRun_sound hI m).1 hc s hp).1⟩
    have hstep : hbRun I T r (m + 1) = _ := instant_mark hc (hsil m h0) hs
    by_cases hd : s + T ≤ m
    · exact ⟨m, closed_stays (by rw [hstep, if_pos hd]) h2⟩
    · obtain ⟨n, hn⟩ := Nat.exists_eq_add_of_le h2
      exact ⟨_, by rw [hn, pending_run (by rw [hstep, if_neg hd]) (by rw [hstep])
        (fun t ht => hsil t (Nat.le_trans h0 (Nat.le_of_succ_le ht))) n, if_neg (by omega)]⟩

end AnyTLS.Heartbeat
