/-
Lemmas about M3 (`Model/Session.lean`), in the order a proof about `handleFrame` needs them: `tblGet`, through
which alone proofs read the two tables, after `tblRemove` / `tblInsert`; `Sess.modAt`; one equation per command
(`handleFrame_push_eq` …) and one per class of commands (`handleFrame_stream_eq`, `handleFrame_session_eq`);
well-formedness (`Sess.WF`, `TblOk`); locality of a quiet frame (`Sess.Local`); writes (`Sess.Wrote`).
-/
import AnyTLS.Model.Session
import AnyTLS.Lemmas.Reader

namespace AnyTLS
open Gen

theorem tblGet_remove (t : List (Nat × Nat)) (k k' : Nat) :
    tblGet (tblRemove t k) k' = if k' = k then none else tblGet t k' := by
  unfold tblGet tblRemove
  rw [List.find?_filter]
  split
  · rw [List.find?_eq_none.mpr (by simp_all)]; rfl
  · congr 2; funext a; by_cases hx : a.1 = k' <;> simp_all

theorem tblGet_insert (t : List (Nat × Nat)) (k v k' : Nat) :
    tblGet (tblInsert t k v) k' = if k' = k then some v else tblGet t k' := by
  have h := tblGet_remove t k k'
  unfold tblInsert
  unfold tblGet at h ⊢
  rw [List.find?_append]
  by_cases e : k' = k
  · subst e; rw [if_pos rfl] at h ⊢; rw [Option.map_eq_none_iff.mp h]; simp
  · rw [if_neg e] at h ⊢; rw [← h]; simp [show (k == k') = false by simpa using fun x => e x.symm]

theorem modObj_getElem? (s : Sess) (i : Nat) (g : Obj → Obj) (h : Nat) :
    (s.modObj i g).objs[h]? = if h = i then (s.objs[h]?).map g else s.objs[h]? := by
  simp only [Sess.modObj, List.getElem?_mapIdx]
  split <;> cases s.objs[h]? <;> simp_all

theorem modObj_length (s : Sess) (i : Nat) (g : Obj → Obj) : (s.modObj i g).objs.length = s.objs.length := by
  simp [Sess.modObj]

@[simp] theorem modObj_streams (s : Sess) (i : Nat) (g : Obj → Obj) : (s.modObj i g).streams = s.streams := rfl
@[simp] theorem modObj_recv (s : Sess) (i : Nat) (g : Obj → Obj) : (s.modObj i g).recv = s.recv := rfl
@[simp] theorem modObj_closed (s : Sess) (i : Nat) (g : Obj → Obj) : (s.modObj i g).closed = s.closed := rfl
@[simp] theorem modObj_isClient (s : Sess) (i : Nat) (g : Obj → Obj) : (s.modObj i g).isClient = s.isClient := rfl
@[simp] theorem modObj_wire (s : Sess) (i : Nat) (g : Obj → Obj) : (s.modObj i g).wire = s.wire := rfl
@[simp] theorem modObj_nextSid (s : Sess) (i : Nat) (g : Obj → Obj) : (s.modObj i g).nextSid = s.nextSid := rfl

@[simp] theorem notifySynack_rd (o : Obj) (r : SynSt) : (o.notifySynack r).rd = o.rd := by
  unfold Obj.notifySynack; split <;> rfl

@[simp] theorem notifySynack_sid (o : Obj) (r : SynSt) : (o.notifySynack r).sid = o.sid := by
  unfold Obj.notifySynack; split <;> rfl

theorem notifySynack_ne_ok (o : Obj) (r : SynSt) (hr : r ≠ .ok) (ho : o.synack ≠ .ok) :
    (o.notifySynack r).synack ≠ .ok := by
  unfold Obj.notifySynack
  split <;> assumption

/-- apply `g` to the object a table lookup designates, if any: the shape of every change a frame
makes to an existing stream object -/
def Sess.modAt (s : Sess) (e : Option Nat) (g : Obj → Obj) : Sess :=
  match e with
  | some h => s.modObj h g
  | none => s

/-- The right side takes `objs` from the result itself: in this form `rw [modAt_eq]` turns any other field of
`s.modAt e g` into that of `s` whatever `e` is, where unfolding would need a case split. -/
theorem modAt_eq (s : Sess) (e : Option Nat) (g : Obj → Obj) :
    s.modAt e g = { s with objs := (s.modAt e g).objs } := by cases e <;> rfl

theorem modAt_getElem? (s : Sess) (e : Option Nat) (g : Obj → Obj) (h : Nat) :
    (s.modAt e g).objs[h]? = if e = some h then (s.objs[h]?).map g else s.objs[h]? := by
  cases e with
  | none => simp [Sess.modAt]
  | some i => simp only [Sess.modAt, modObj_getElem?, Option.some.injEq, eq_comm]

theorem modAt_length (s : Sess) (e : Option Nat) (g : Obj → Obj) :
    (s.modAt e g).objs.length = s.objs.length := by
  cases e <;> simp [Sess.modAt, modObj_length]

theorem modAt_recvObj (s : Sess) (e : Option Nat) (g : Obj → Obj) (k : Nat) :
    (tblGet (s.modAt e g).recv k).bind (fun h => (s.modAt e g).objs[h]?) =
      (tblGet s.recv k).bind (fun h => (s.objs[h]?).map (fun o => if e = some h then g o else o)) := by
  rw [show (s.modAt e g).recv = s.recv by rw [modAt_eq]]
  cases tblGet s.recv k with
  | none => rfl
  | some h =>
    rw [Option.bind_some, Option.bind_some, modAt_getElem?]
    split <;> cases s.objs[h]? <;> rfl

theorem dropRecvEntry_eq (s : Sess) (k : Nat) :
    s.dropRecvEntry k = s.modAt (tblGet s.recv k) (fun o => { o with rd := o.rd.closeChan }) := rfl

theorem failPendingOpen_eq (s : Sess) (k : Nat) :
    s.failPendingOpen k = s.modAt (tblGet s.streams k)
      (fun o => o.notifySynack (.err "Protocol error: Protocol error: stream closed by peer")) := rfl

theorem dropRecvEntry_length (s : Sess) (sid : Nat) : (s.dropRecvEntry sid).objs.length = s.objs.length :=
  modAt_length ..

@[simp] theorem dropRecvEntry_isClient (s : Sess) (sid : Nat) : (s.dropRecvEntry sid).isClient = s.isClient := by
  rw [dropRecvEntry_eq, modAt_eq]

@[simp] theorem dropRecvEntry_hasCallback (s : Sess) (sid : Nat) : (s.dropRecvEntry sid).hasCallback = s.hasCallback := by
  rw [dropRecvEntry_eq, modAt_eq]

theorem failPendingOpen_length (s : Sess) (sid : Nat) : (s.failPendingOpen sid).objs.length = s.objs.length :=
  modAt_length ..

/-- commands whose handling never writes to the transport -/
def quietCmd : Cmd → Bool
  | .push | .syn | .synAck | .fin | .waste | .heartResponse | .serverSettings | .updatePaddingScheme => true
  | _ => false

/-- the commands by what their handling can touch: one stream; the session, quietly; the transport -/
theorem cmd_cases (c : Cmd) :
    (c = .push ∨ c = .syn ∨ c = .synAck ∨ c = .fin) ∨
    (c = .waste ∨ c = .heartResponse ∨ c = .serverSettings ∨ c = .updatePaddingScheme) ∨
    c = .settings ∨ c = .alert ∨ c = .heartRequest := by
  cases c <;> simp

theorem quietCmd_cases {c : Cmd} (hq : quietCmd c = true) :
    (c = .push ∨ c = .syn ∨ c = .synAck ∨ c = .fin) ∨
    (c = .waste ∨ c = .heartResponse ∨ c = .serverSettings ∨ c = .updatePaddingScheme) := by
  rcases cmd_cases c with h | h | h | h | h
  · exact .inl h
  · exact .inr h
  all_goals rw [h] at hq; cases hq

theorem handleFrame_push_eq (s : Sess) (f : Frame) (hc : f.cmd = .push) :
    s.handleFrame f = (s.modAt (tblGet s.recv f.sid) (fun o => { o with rd := o.rd.push f.data }), .continue) := by
  unfold Sess.handleFrame Sess.modAt; simp only [hc]; cases tblGet s.recv f.sid <;> rfl

def synackVerdict (data : Bytes) : SynSt :=
  if data.isEmpty then .ok else .err ("Protocol error: Protocol error: Server error: " ++ stringOfBytes data)

theorem handleFrame_synAck_eq (s : Sess) (f : Frame) (hc : f.cmd = .synAck) :
    s.handleFrame f = (if s.isClient then
      s.modAt (tblGet s.streams f.sid) (fun o => o.notifySynack (synackVerdict f.data)) else s, .continue) := by
  unfold Sess.handleFrame Sess.modAt synackVerdict; simp only [hc]
  cases s.isClient <;> cases tblGet s.streams f.sid <;> cases f.data.isEmpty <;> rfl

/-- FIN arm, last step: the entries of id `k` leave both tables -/
def Sess.release (s : Sess) (k : Nat) : Sess :=
  { s with streams := tblRemove s.streams k, recv := tblRemove s.recv k }

theorem handleFrame_fin_eq (s : Sess) (f : Frame) (hc : f.cmd = .fin) :
    s.handleFrame f = (((s.dropRecvEntry f.sid).failPendingOpen f.sid).release f.sid, .continue) := by
  unfold Sess.handleFrame; simp only [hc]; rfl

/-- SYN arm on a server: a new stream object for id `k`, entered in both tables under handle `h` and
handed to the callback -/
def Sess.acceptSyn (s : Sess) (k h : Nat) : Sess :=
  { s with objs := s.objs ++ [({ sid := k } : Obj)], recv := tblInsert s.recv k h,
           streams := tblInsert s.streams k h,
           delivered := if s.hasCallback then s.delivered ++ [h] else s.delivered }

theorem handleFrame_syn_eq (s : Sess) (f : Frame) (hc : f.cmd = .syn) :
    s.handleFrame f =
      (if s.isClient then s else (s.dropRecvEntry f.sid).acceptSyn f.sid s.objs.length, .continue) := by
  unfold Sess.handleFrame Sess.acceptSyn; simp only [hc]
  cases s.isClient
  · cases (s.dropRecvEntry f.sid).hasCallback <;> rfl
  · rfl

/-- the four quiet commands that address no stream change at most the peer version, the scheme (with its
md5 and the record of pushes) and the count of heartbeat answers (the form of `modAt_eq`) -/
theorem handleFrame_session_eq (s : Sess) (f : Frame)
    (hc : f.cmd = .waste ∨ f.cmd = .heartResponse ∨ f.cmd = .serverSettings ∨ f.cmd = .updatePaddingScheme) :
    s.handleFrame f =
      ({ s with peerVersion := (s.handleFrame f).1.peerVersion, scheme := (s.handleFrame f).1.scheme,
                schemeMd5 := (s.handleFrame f).1.schemeMd5, pushed := (s.handleFrame f).1.pushed,
                heartResponses := (s.handleFrame f).1.heartResponses }, .continue) := by
  unfold Sess.handleFrame
  rcases hc with hc | hc | hc | hc <;> simp only [hc]
  · split
    · split <;> rfl
    · rfl
  · split
    · split <;> rfl
    · rfl

/-- the four commands that address one stream change nothing but stream objects, the two tables and
the callback's deliveries (the form of `modAt_eq`) -/
theorem handleFrame_stream_eq (s : Sess) (f : Frame)
    (hc : f.cmd = .push ∨ f.cmd = .syn ∨ f.cmd = .synAck ∨ f.cmd = .fin) :
    s.handleFrame f =
      ({ s with objs := (s.handleFrame f).1.objs, streams := (s.handleFrame f).1.streams,
                recv := (s.handleFrame f).1.recv, delivered := (s.handleFrame f).1.delivered }, .continue) := by
  rcases hc with hc | hc | hc | hc
  · rw [handleFrame_push_eq s f hc, modAt_eq]
  · rw [handleFrame_syn_eq s f hc, dropRecvEntry_eq, modAt_eq]; split <;> rfl
  · rw [handleFrame_synAck_eq s f hc, modAt_eq]; split <;> rfl
  · rw [handleFrame_fin_eq s f hc, failPendingOpen_eq, modAt_eq, dropRecvEntry_eq, modAt_eq]; rfl

theorem handleFrames_cons_quiet (s : Sess) (f : Frame) (fs : List Frame) (hq : quietCmd f.cmd = true) :
    s.handleFrames (f :: fs) = (s.handleFrame f).1.handleFrames fs := by
  have h : (s.handleFrame f).2 = .continue := by
    rcases quietCmd_cases hq with hc | hc
    · rw [handleFrame_stream_eq s f hc]
    · rw [handleFrame_session_eq s f hc]
  rw [Sess.handleFrames]
  cases hres : s.handleFrame f with
  | mk s' o => rw [hres] at h; cases h; rfl

/-- session well-formedness: table entries point at objects carrying the key as stream id,
and every reader is well-formed -/
structure Sess.WF (s : Sess) : Prop where
  recv_ok : ∀ k h, tblGet s.recv k = some h → ∃ o, s.objs[h]? = some o ∧ o.sid = k
  streams_ok : ∀ k h, tblGet s.streams k = some h → ∃ o, s.objs[h]? = some o ∧ o.sid = k
  rd_ok : ∀ (h : Nat) (o : Obj), s.objs[h]? = some o → o.rd.WF

/-- `Sess.WF`'s `recv_ok` and `streams_ok` are `TblOk s.recv s.objs` and `TblOk s.streams s.objs` by unfolding,
and are passed as such. -/
def TblOk (t : List (Nat × Nat)) (objs : List Obj) : Prop :=
  ∀ k h, tblGet t k = some h → ∃ o, objs[h]? = some o ∧ o.sid = k

theorem TblOk.mono {t : List (Nat × Nat)} {objs objs' : List Obj} (ht : TblOk t objs)
    (hobj : ∀ (h : Nat) (o : Obj), objs[h]? = some o → ∃ o', objs'[h]? = some o' ∧ o'.sid = o.sid) :
    TblOk t objs' := by
  intro k h hk
  obtain ⟨o, ho, hs⟩ := ht k h hk
  obtain ⟨o', ho', hs'⟩ := hobj h o ho
  exact ⟨o', ho', hs'.trans hs⟩

theorem TblOk.remove {t : List (Nat × Nat)} {objs : List Obj} (ht : TblOk t objs) (k : Nat) :
    TblOk (tblRemove t k) objs := by
  intro j h hj
  rw [tblGet_remove] at hj
  split at hj
  · cases hj
  · exact ht j h hj

theorem TblOk.insert {t : List (Nat × Nat)} {objs : List Obj} (ht : TblOk t objs) {i k : Nat}
    (ho : objs[i]? = some { sid := k }) : TblOk (tblInsert t k i) objs := by
  intro j h hj
  rw [tblGet_insert] at hj
  split at hj
  · rename_i e; cases hj; exact ⟨_, ho, e.symm⟩
  · exact ht j h hj

theorem modAt_WF {s : Sess} (hwf : s.WF) (e : Option Nat) (g : Obj → Obj)
    (hsid : ∀ o, (g o).sid = o.sid) (hrd : ∀ o, o.rd.WF → (g o).rd.WF) : (s.modAt e g).WF := by
  have hobj (h : Nat) (o : Obj) (ho : s.objs[h]? = some o) :
      ∃ o', (s.modAt e g).objs[h]? = some o' ∧ o'.sid = o.sid := by
    rw [modAt_getElem?, ho]
    split
    · exact ⟨g o, rfl, hsid o⟩
    · exact ⟨o, rfl, rfl⟩
  refine ⟨modAt_eq s e g ▸ TblOk.mono hwf.recv_ok hobj, modAt_eq s e g ▸ TblOk.mono hwf.streams_ok hobj,
    fun h o' ho' => ?_⟩
  rw [modAt_getElem?] at ho'
  split at ho'
  · obtain ⟨o, ho, rfl⟩ := Option.map_eq_some_iff.mp ho'
    exact hrd _ (hwf.rd_ok h _ ho)
  · exact hwf.rd_ok h o' ho'

theorem acceptSyn_WF {s : Sess} (hwf : s.WF) (k : Nat) : (s.acceptSyn k s.objs.length).WF := by
  have hobj : ∀ (h : Nat) (o : Obj), s.objs[h]? = some o →
      ∃ o', (s.objs ++ [({ sid := k } : Obj)])[h]? = some o' ∧ o'.sid = o.sid := fun h o ho =>
    ⟨o, by rw [List.getElem?_append_left (List.getElem?_eq_some_iff.mp ho).1]; exact ho, rfl⟩
  have new : (s.objs ++ [({ sid := k } : Obj)])[s.objs.length]? = some { sid := k } := by simp
  refine ⟨(TblOk.mono hwf.recv_ok hobj).insert new, (TblOk.mono hwf.streams_ok hobj).insert new,
    fun h o' ho' => ?_⟩
  rcases List.mem_append.mp (List.mem_of_getElem? ho') with hm | hm
  · obtain ⟨i, hi⟩ := List.mem_iff_getElem?.mp hm
    exact hwf.rd_ok i o' hi
  · rw [List.mem_singleton.mp hm]; exact nofun

/-- `s'` differs from `s` only in what belongs to stream id `k`: the entries and the objects of every
other id are as they were, and well-formedness is kept -/
structure Sess.Local (k : Nat) (s s' : Sess) : Prop where
  streams : ∀ j, j ≠ k → tblGet s'.streams j = tblGet s.streams j
  recv : ∀ j, j ≠ k → tblGet s'.recv j = tblGet s.recv j
  objs : ∀ (h : Nat) (o : Obj), s.objs[h]? = some o → o.sid ≠ k → s'.objs[h]? = some o
  wf : s.WF → s'.WF

theorem Sess.Local.refl (k : Nat) (s : Sess) : s.Local k s :=
  ⟨fun _ _ => rfl, fun _ _ => rfl, fun _ _ ho _ => ho, id⟩

theorem Sess.Local.trans {k : Nat} {s s1 s2 : Sess} (h1 : s.Local k s1) (h2 : s1.Local k s2) : s.Local k s2 :=
  ⟨fun j hj => (h2.streams j hj).trans (h1.streams j hj), fun j hj => (h2.recv j hj).trans (h1.recv j hj),
   fun h o ho hk => h2.objs h o (h1.objs h o ho hk) hk, h2.wf ∘ h1.wf⟩

theorem modAt_local {s : Sess} (hwf : s.WF) (e : Option Nat) (g : Obj → Obj) (k : Nat)
    (he : ∀ h, e = some h → ∃ o, s.objs[h]? = some o ∧ o.sid = k)
    (hsid : ∀ o, (g o).sid = o.sid) (hrd : ∀ o, o.rd.WF → (g o).rd.WF) : s.Local k (s.modAt e g) := by
  refine ⟨fun j _ => by rw [modAt_eq], fun j _ => by rw [modAt_eq], fun h o ho hk => ?_,
    fun _ => modAt_WF hwf e g hsid hrd⟩
  rw [modAt_getElem?, if_neg, ho]
  intro e'
  obtain ⟨o', ho', hs⟩ := he h e'
  rw [ho] at ho'; cases ho'; exact hk hs

theorem notifySynack_local {s : Sess} (hwf : s.WF) (k : Nat) (r : SynSt) :
    s.Local k (s.modAt (tblGet s.streams k) (fun o => o.notifySynack r)) :=
  modAt_local hwf _ _ k (hwf.streams_ok k) (fun o => notifySynack_sid o r)
    (fun o h => by rw [notifySynack_rd]; exact h)

theorem acceptSyn_local (s : Sess) (k : Nat) : s.Local k (s.acceptSyn k s.objs.length) :=
  ⟨fun j hj => by simp only [Sess.acceptSyn, tblGet_insert, if_neg hj],
   fun j hj => by simp only [Sess.acceptSyn, tblGet_insert, if_neg hj],
   fun h' o ho _ => by
    rw [Sess.acceptSyn, List.getElem?_append_left (List.getElem?_eq_some_iff.mp ho).1]; exact ho,
   fun hwf => acceptSyn_WF hwf k⟩

theorem release_local (s : Sess) (k : Nat) : s.Local k (s.release k) :=
  ⟨fun j hj => by simp only [Sess.release, tblGet_remove, if_neg hj],
   fun j hj => by simp only [Sess.release, tblGet_remove, if_neg hj], fun _ _ ho _ => ho,
   fun hwf => ⟨TblOk.remove hwf.recv_ok k, TblOk.remove hwf.streams_ok k, hwf.rd_ok⟩⟩

theorem handleFrame_quiet_local (s : Sess) (f : Frame) (hq : quietCmd f.cmd = true) (hwf : s.WF) :
    s.Local f.sid (s.handleFrame f).1 := by
  have hd : s.Local f.sid (s.dropRecvEntry f.sid) :=
    modAt_local hwf _ _ _ (hwf.recv_ok f.sid) (fun _ => rfl) (fun o h => closeChan_WF o.rd h)
  rcases quietCmd_cases hq with (hc | hc | hc | hc) | hc
  · rw [handleFrame_push_eq s f hc]
    exact modAt_local hwf _ _ _ (hwf.recv_ok f.sid) (fun _ => rfl) (fun o h => push_WF o.rd f.data h)
  · rw [handleFrame_syn_eq s f hc]
    split
    · exact .refl _ _
    · rw [← dropRecvEntry_length s f.sid]
      exact hd.trans (acceptSyn_local ..)
  · rw [handleFrame_synAck_eq s f hc]
    split
    · exact notifySynack_local hwf _ _
    · exact .refl _ _
  · rw [handleFrame_fin_eq s f hc]
    exact (hd.trans (notifySynack_local (hd.wf hwf) _ _)).trans (release_local ..)
  · rw [handleFrame_session_eq s f hc]
    exact ⟨fun _ _ => rfl, fun _ _ => rfl, fun _ _ ho _ => ho, fun h => ⟨h.recv_ok, h.streams_ok, h.rd_ok⟩⟩

/-- `s'` differs from `s` at most in what a write to the transport can change: the transport itself,
the padding counter and generator, the pending buffer, and what `close` tears down.  It unfolds to an
equation of the form of `modAt_eq`, so `rw [writeFrame_wrote s f]` rewrites with it. -/
def Sess.Wrote (s s' : Sess) : Prop :=
  s' = { s with closed := s'.closed, objs := s'.objs, streams := s'.streams, recv := s'.recv, shut := s'.shut,
                wrBudget := s'.wrBudget, wire := s'.wire, pktCounter := s'.pktCounter, rng := s'.rng,
                buffer := s'.buffer }

theorem Sess.Wrote.trans {s s1 s2 : Sess} (h1 : s.Wrote s1) (h2 : s1.Wrote s2) : s.Wrote s2 := by
  unfold Sess.Wrote at *
  exact h2.trans (by rw [h1])

theorem close_wrote (s : Sess) : s.Wrote s.close := by
  unfold Sess.close; split <;> rfl

theorem transportWrites_wrote (ws : List Bytes) (s : Sess) : s.Wrote (s.transportWrites ws).1 := by
  fun_induction Sess.transportWrites s ws with
  | case1 => rfl
  | case2 | case3 => exact close_wrote _
  | case4 s w ws _ n _ ih | case5 s w ws _ _ ih => exact .trans (by rfl) ih

theorem writeWithPadding_wrote (s : Sess) (p : Bytes) : s.Wrote (s.writeWithPadding p).1 := by
  fun_cases Sess.writeWithPadding s p
  · exact transportWrites_wrote _ _
  all_goals exact .trans (by rfl) (transportWrites_wrote _ _)

theorem writeFrame_wrote (s : Sess) (f : Frame) : s.Wrote (s.writeFrame f).1 := by
  fun_cases Sess.writeFrame s f
  · rfl
  · rfl
  · rfl
  · exact .trans (by rfl) (writeWithPadding_wrote _ _)

theorem writeFrame_nextSid (s : Sess) (f : Frame) : (s.writeFrame f).1.nextSid = s.nextSid := by
  rw [writeFrame_wrote s f]

/-- "accepts": the transport takes every write (no budget, not shut down), and a write leaves it so -/
theorem transportWrites_accepts (ws : List Bytes) (t : Sess) (hb : t.wrBudget = none) (hs : t.shut = false) :
    t.transportWrites ws = ({ t with wire := t.wire ++ ws }, .ok) := by
  fun_induction Sess.transportWrites t ws with
  | case1 => simp
  | case2 _ _ _ h => rw [hs] at h; cases h
  | case3 _ _ _ _ h | case4 _ _ _ _ _ h => rw [hb] at h; cases h
  | case5 t w ws _ _ ih => rw [ih hb hs]; simp

/-- `closed` stays what it is: said with a parameter `c`, so that the three facts are one predicate of the session, as
`handleFrame_writes_preserve` wants it -/
theorem writeFrame_accepts (s : Sess) (f : Frame) (c : Bool)
    (h : s.closed = c ∧ s.wrBudget = none ∧ s.shut = false) :
    (s.writeFrame f).1.closed = c ∧ (s.writeFrame f).1.wrBudget = none ∧ (s.writeFrame f).1.shut = false := by
  fun_cases Sess.writeFrame s f
  · exact h
  · exact h
  · exact h
  · fun_cases Sess.writeWithPadding _ _ <;>
      (rw [transportWrites_accepts _ _ (by exact h.2.1) (by exact h.2.2)]; exact h)

/-- what every write and every update of the peer version preserves holds after a Settings or a
HeartRequest frame -/
theorem handleFrame_writes_preserve {P : Sess → Prop} (hw : ∀ t fr, P t → P (t.writeFrame fr).1)
    (hv : ∀ t v, P t → P { t with peerVersion := v }) (s : Sess) (f : Frame)
    (hc : f.cmd = .settings ∨ f.cmd = .heartRequest) (h : P s) : P (s.handleFrame f).1 := by
  have hw' {t t' : Sess} {fr : Frame} {r : Res} (e : t.writeFrame fr = (t', r)) (ht : P t) : P t' :=
    show P (t', r).1 from e ▸ hw t fr ht
  have hp (m) : P (s.maybePushScheme m).1 := by
    fun_cases Sess.maybePushScheme s m <;> first | exact hw s _ h | exact h
  have hss (t m) (ht : P t) : P (t.maybeServerSettings m).1 := by
    fun_cases Sess.maybeServerSettings t m <;> first | exact hw' ‹_› (hv t _ ht) | exact ht
  unfold Sess.handleFrame
  rcases hc with hc | hc <;> simp only [hc]
  · split
    · fun_cases Sess.handleSettings s f.data <;> (rename_i e; have := hp (parseMap f.data); rw [e] at this)
      · exact hss _ _ this
      · exact this
    · exact h
  · split <;> exact hw' ‹_› h

theorem handleFrame_nextSid (s : Sess) (f : Frame) : (s.handleFrame f).1.nextSid = s.nextSid := by
  have hw : ∀ (t : Sess) (fr : Frame), t.nextSid = s.nextSid → (t.writeFrame fr).1.nextSid = s.nextSid :=
    fun t fr h => (writeFrame_nextSid t fr).trans h
  rcases cmd_cases f.cmd with hc | hc | hc | hc | hc
  · rw [handleFrame_stream_eq s f hc]
  · rw [handleFrame_session_eq s f hc]
  · exact handleFrame_writes_preserve hw (fun _ _ h => h) s f (.inl hc) rfl
  · unfold Sess.handleFrame Sess.handleAlert
    simp only [hc]
    rw [close_wrote]
  · exact handleFrame_writes_preserve hw (fun _ _ h => h) s f (.inr hc) rfl

theorem handleFrame_accepts (s : Sess) (f : Frame) (hne : f.cmd ≠ .alert) (c : Bool)
    (h : s.closed = c ∧ s.wrBudget = none ∧ s.shut = false) :
    (s.handleFrame f).1.closed = c ∧ (s.handleFrame f).1.wrBudget = none ∧ (s.handleFrame f).1.shut = false := by
  rcases cmd_cases f.cmd with hc | hc | hc | hc | hc
  · rw [handleFrame_stream_eq s f hc]; exact h
  · rw [handleFrame_session_eq s f hc]; exact h
  · exact handleFrame_writes_preserve (fun t fr => writeFrame_accepts t fr c) (fun _ _ h => h) s f (.inl hc) h
  · exact absurd hc hne
  · exact handleFrame_writes_preserve (fun t fr => writeFrame_accepts t fr c) (fun _ _ h => h) s f (.inr hc) h

end AnyTLS
