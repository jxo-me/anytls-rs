/-
Lemmas about the relay loops (M14): `write_all` delivers a prefix and, when it returns Ok, everything;
the loop built on a sound hand-over is lossless; the two unsound shapes are refuted by witnesses.
-/
import AnyTLS.Model.Relay
namespace AnyTLS.Relay
open Gen (WriteKind SliceKind RelaySite)

theorem writeAll_spec (b : Bytes) (caps : List Nat) :
    (writeAll b caps).1 <+: b ∧ ∀ r, (writeAll b caps).2 = some r → (writeAll b caps).1 = b := by
  fun_induction writeAll b caps with
  | case1 caps => exact ⟨List.prefix_refl _, fun _ _ => rfl⟩
  | case2 | case3 => exact ⟨List.nil_prefix, nofun⟩
  | case4 b bs c caps r ih =>
    obtain ⟨⟨t, ht⟩, hc⟩ := ih
    refine ⟨⟨t, ?_⟩, fun r' h => ?_⟩
    · rw [List.append_assoc, ht, List.take_append_drop]
    · show _ ++ r.1 = _
      rw [hc r' h, List.take_append_drop]

/-- `write_all` succeeds whenever the sink keeps taking at least one byte per call for long enough -/
theorem writeAll_succeeds : ∀ (b : Bytes) (caps : List Nat), (∀ c ∈ caps, 0 < c) → b.length ≤ caps.length →
    ∃ r, (writeAll b caps).2 = some r := by
  intro b caps
  fun_induction writeAll b caps with
  | case1 caps => intro _ _; exact ⟨caps, rfl⟩
  | case2 => intro _ h; simp at h
  | case3 b bs caps => intro h _; exact absurd (h 0 List.mem_cons_self) (by decide)
  | case4 b bs c caps r ih =>
    intro hpos hlen
    exact ih (List.forall_mem_cons.mp hpos).2 (by simp only [List.length_drop, List.length_cons] at *; omega)

theorem handOver_spec (w : WriteKind) (hw : w ≠ .writeOnce) (b : Bytes) (caps : List Nat) :
    (handOver w b caps).1 <+: b ∧ ∀ r, (handOver w b caps).2 = some r → (handOver w b caps).1 = b := by
  cases w with
  | writeAll => exact writeAll_spec b caps
  | writeOnce => exact absurd rfl hw
  | channel | frame => exact ⟨List.prefix_refl b, fun _ _ => rfl⟩

@[simp] theorem slice_prefixN (buf chunk : Bytes) : slice .prefixN (fill buf chunk) chunk.length = chunk := by
  simp [slice, fill]

/-- C01 for a relay loop: at every moment the sink has received a prefix of what the source produced, and when the
loop ends because the source ended, all of it -/
theorem run_spec (w : WriteKind) (hw : w ≠ .writeOnce) : ∀ (reads : List Bytes) (buf : Bytes) (caps : List Nat),
    (run w .prefixN buf reads caps).delivered <+: flatten reads ∧
    ((run w .prefixN buf reads caps).sourceDone = true → (run w .prefixN buf reads caps).delivered = flatten reads) := by
  intro reads
  induction reads with
  | nil => intro buf caps; simp [run]
  | cons chunk rest ih =>
    intro buf caps
    unfold run
    rw [slice_prefixN]
    obtain ⟨hp, hc⟩ := handOver_spec w hw chunk caps
    generalize handOver w chunk caps = ho at hp hc
    obtain ⟨d, r⟩ := ho
    cases r with
    | none => exact ⟨List.IsPrefix.trans hp (List.prefix_append _ _), nofun⟩
    | some caps' =>
      have : d = chunk := hc caps' rfl
      subst this
      obtain ⟨ih1, ih2⟩ := ih (fill buf d) caps'
      exact ⟨(List.prefix_append_right_inj d).mpr ih1, fun h => congrArg (d ++ ·) (ih2 h)⟩

/-- … hence for a site that meets the obligation `sound` -/
theorem run_sound (s : Gen.RelaySite) (h : sound s = true) (reads : List Bytes) (buf : Bytes) (caps : List Nat) :
    (run s.write s.slice buf reads caps).delivered <+: flatten reads ∧
    ((run s.write s.slice buf reads caps).sourceDone = true → (run s.write s.slice buf reads caps).delivered = flatten reads) := by
  simp only [sound, Bool.and_eq_true, bne_iff_ne, ne_eq, beq_iff_eq] at h
  rw [h.2]
  exact run_spec s.write h.1 reads buf caps

/-- a single `write` loses bytes as soon as the sink takes a chunk in part -/
theorem writeOnce_loses : (run .writeOnce .prefixN [] [[1, 2, 3], [4]] [2, 5]) = { delivered := [1, 2, 4], sourceDone := true } := by
  decide

/-- forwarding the whole buffer sends stale bytes -/
theorem whole_buffer_duplicates : (run .writeAll .whole [9, 9, 9] [[1, 2, 3], [4]] [8, 8]) = { delivered := [1, 2, 3, 4, 2, 3], sourceDone := true } := by
  decide

end AnyTLS.Relay
