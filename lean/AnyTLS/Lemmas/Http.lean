/-
What `Model/Http.lean` does to a request that `Model/HttpSpec.lean` calls well-formed, stage by stage in the order
the proxy runs them: `Req.render` goes through every stage as `Req.parsed` / `Req.forwarded` say.
-/
import AnyTLS.Lemmas.Utf8
import AnyTLS.Model.HttpSpec

namespace AnyTLS.Http

/-! ### header end: `findHeaderEnd` finds the first terminator, and `readHeader` finds the same one however the
bytes are cut into reads -/

theorem findHeaderEnd_cons (x : UInt8) (xs : Bytes) :
    findHeaderEnd (x :: xs) = if terminator <+: x :: xs then some 4 else (findHeaderEnd xs).map (· + 1) := by
  rw [findHeaderEnd]; simp only [List.isPrefixOf_iff_prefix]

theorem findHeaderEnd_spec (b : Bytes) (e : Nat) (h : findHeaderEnd b = some e) :
    (∃ pre post, b = pre ++ terminator ++ post ∧ e = pre.length + 4) ∧
    (∀ pre post, b = pre ++ terminator ++ post → e ≤ pre.length + 4) := by
  fun_induction findHeaderEnd b generalizing e with
  | case1 => cases h
  | case2 x xs hp =>
    cases h
    obtain ⟨post, hpost⟩ := List.isPrefixOf_iff_prefix.mp hp
    exact ⟨⟨[], post, hpost.symm, rfl⟩, fun pre post _ => Nat.le_add_left ..⟩
  | case3 x xs hp ih =>
    obtain ⟨e', hx, rfl⟩ := Option.map_eq_some_iff.mp h
    obtain ⟨⟨pre, post, h1, h2⟩, hmin⟩ := ih e' hx
    refine ⟨⟨x :: pre, post, by rw [h1]; rfl, by rw [h2]; rfl⟩, ?_⟩
    intro pre' post' hb
    cases pre' with
    | nil => exact absurd (List.isPrefixOf_iff_prefix.mpr ⟨post', hb.symm⟩) hp
    | cons y ys => exact Nat.succ_le_succ (hmin ys post' (List.cons.inj hb).2)

theorem findHeaderEnd_bounds (b : Bytes) (e : Nat) (h : findHeaderEnd b = some e) : 4 ≤ e ∧ e ≤ b.length := by
  obtain ⟨⟨pre, post, rfl, rfl⟩, _⟩ := findHeaderEnd_spec b e h
  simp only [List.length_append, terminator, List.length_cons, List.length_nil]
  omega

theorem findHeaderEnd_none (b : Bytes) (h : findHeaderEnd b = none) (pre post : Bytes) : b ≠ pre ++ terminator ++ post := by
  fun_induction findHeaderEnd b generalizing pre with
  | case1 => cases pre <;> nofun
  | case2 => cases h
  | case3 x xs hp ih =>
    intro hb
    cases pre with
    | nil => exact hp (List.isPrefixOf_iff_prefix.mpr ⟨post, hb.symm⟩)
    | cons y ys => exact ih (Option.map_eq_none_iff.mp h) ys (List.cons.inj hb).2

theorem findHeaderEnd_append (b : Bytes) : ∀ (a : Bytes) (e : Nat),
    findHeaderEnd a = some e ↔ findHeaderEnd (a ++ b) = some e ∧ e ≤ a.length
  | [], e => ⟨nofun, fun ⟨h, hle⟩ => by have := (findHeaderEnd_bounds _ _ h).1; simp at hle; omega⟩
  | x :: xs, e => by
    by_cases h4 : 4 ≤ (x :: xs).length
    · have hpq : terminator <+: x :: (xs ++ b) ↔ terminator <+: x :: xs :=
        ⟨fun h => List.prefix_of_prefix_length_le h (List.prefix_append (x :: xs) b) h4,
         fun h => h.trans (List.prefix_append (x :: xs) b)⟩
      rw [List.cons_append, findHeaderEnd_cons, findHeaderEnd_cons]
      simp only [hpq]
      split
      · exact ⟨fun h => ⟨h, by cases h; exact h4⟩, And.left⟩
      · simp only [Option.map_eq_some_iff]
        constructor
        · rintro ⟨e', hx, rfl⟩
          have := (findHeaderEnd_append b xs e').mp hx
          exact ⟨⟨e', this.1, rfl⟩, Nat.succ_le_succ this.2⟩
        · rintro ⟨⟨e', hx, rfl⟩, hle⟩
          exact ⟨e', (findHeaderEnd_append b xs e').mpr ⟨hx, Nat.le_of_succ_le_succ hle⟩, rfl⟩
    · exact ⟨fun h => by have := findHeaderEnd_bounds _ _ h; omega,
        fun ⟨h, hle⟩ => by have := findHeaderEnd_bounds _ _ h; omega⟩

theorem readHeader_whole (M : Nat) (chunks : List Bytes) (buf : Bytes)
    (hnone : findHeaderEnd buf = none) (hlen : buf.length ≤ M) :
    match findHeaderEnd (buf ++ chunks.flatten) with
    | some e =>
      if e ≤ M then ∃ rem later, readHeader M buf chunks = .ok ((buf ++ chunks.flatten).take e) rem later
          ∧ rem ++ later.flatten = (buf ++ chunks.flatten).drop e
      else readHeader M buf chunks = .err .tooLarge
    | none => readHeader M buf chunks = .err (if (buf ++ chunks.flatten).length > M then .tooLarge else .closedEarly) := by
  fun_induction readHeader M buf chunks with
  | case1 buf =>
    rw [List.flatten_nil, List.append_nil, hnone]
    exact congrArg HdrOut.err (if_neg (Nat.not_lt.mpr hlen)).symm
  | case2 buf c rest buf' e hb hle =>
    obtain ⟨hs, hbd⟩ := (findHeaderEnd_append rest.flatten _ e).mp hb
    rw [List.flatten_cons, ← List.append_assoc, hs]
    exact (if_pos hle).mpr ⟨_, _, by rw [List.take_append_of_le_length hbd], by rw [List.drop_append_of_le_length hbd]⟩
  | case3 buf c rest buf' e hb hle =>
    rw [List.flatten_cons, ← List.append_assoc, ((findHeaderEnd_append rest.flatten _ e).mp hb).1]
    exact (if_neg hle).mpr rfl
  | case4 buf c rest buf' hb hgt =>
    have hgt : (buf ++ c).length > M := hgt
    rw [List.flatten_cons, ← List.append_assoc]
    split
    · rename_i e hs
      exact (if_neg fun hle => by
        have := (findHeaderEnd_append rest.flatten _ e).mpr ⟨hs, by omega⟩
        rw [hb] at this; cases this).mpr rfl
    · rw [if_pos (by rw [List.length_append]; omega)]
  | case5 buf c rest buf' hb hgt ih =>
    rw [List.flatten_cons, ← List.append_assoc]
    exact ih hb (by omega)

/-! ### lines and tokens: a line without `\r` and a token without white space come back from `splitCRLF`,
`splitWs`, `trim` as they went in -/

theorem dropWhile_all_false {α} (p : α → Bool) : ∀ (l : List α), (∀ c ∈ l, p c = false) → l.dropWhile p = l
  | [], _ => rfl
  | c :: _, h => List.dropWhile_cons_of_neg (Bool.eq_false_iff.mp (h c List.mem_cons_self))

theorem splitCRLF_line (l rest : Str) (h : '\r' ∉ l) : splitCRLF (l ++ '\r' :: '\n' :: rest) = l :: splitCRLF rest := by
  induction l with
  | nil => simp [splitCRLF]
  | cons c l' ih =>
    have hc : c ≠ '\r' := fun e => h (e ▸ List.mem_cons_self)
    cases hl : l' ++ '\r' :: '\n' :: rest with
    | nil => simp at hl
    | cons d r => rw [List.cons_append, hl, splitCRLF, if_neg (fun e => hc e.1), ← hl, ih fun e => h (List.mem_cons_of_mem _ e)]; rfl

theorem splitCRLF_lines (ls : List Str) (rest : Str) (h : ∀ l ∈ ls, '\r' ∉ l) :
    splitCRLF (ls.flatMap (· ++ crlf) ++ rest) = ls ++ splitCRLF rest := by
  induction ls with
  | nil => rfl
  | cons l t ih =>
    rw [List.flatMap_cons, List.append_assoc, List.append_assoc]
    exact (splitCRLF_line l _ (h l List.mem_cons_self)).trans
      (congrArg (l :: ·) (ih fun x hx => h x (List.mem_cons_of_mem _ hx)))

theorem splitWsGo_tok (tok rest cur : Str) (h : ∀ c ∈ tok, isWs c = false) :
    splitWsGo (tok ++ rest) cur = splitWsGo rest (tok.reverse ++ cur) := by
  induction tok generalizing cur with
  | nil => rfl
  | cons c t ih =>
    rw [List.cons_append, splitWsGo, if_neg (by simp [h c List.mem_cons_self]),
      ih _ fun x hx => h x (List.mem_cons_of_mem _ hx), List.reverse_cons, List.append_assoc]; rfl

theorem splitWs_three (a b c : Str) (ha : a ≠ []) (hb : b ≠ []) (hc : c ≠ [])
    (wa : ∀ x ∈ a, isWs x = false) (wb : ∀ x ∈ b, isWs x = false) (wc : ∀ x ∈ c, isWs x = false) :
    splitWs (a ++ ' ' :: b ++ ' ' :: c) = [a, b, c] := by
  have word (t rest : Str) (ht : t ≠ []) (wt : ∀ x ∈ t, isWs x = false) :
      splitWsGo (t ++ ' ' :: rest) [] = t :: splitWsGo rest [] := by
    rw [splitWsGo_tok t _ [] wt, splitWsGo, if_pos (by decide), if_neg (by simp [ht])]; simp
  unfold splitWs
  rw [List.append_assoc, List.cons_append, word a _ ha wa, word b _ hb wb]
  have := splitWsGo_tok c [] [] wc
  rw [List.append_nil] at this
  rw [this, splitWsGo, if_neg (by simp [hc])]; simp

/-- `trim` (`p := isWs`) and `trimMatches c` (`p := (· == c)`) have this shape -/
theorem trim_wrap {p : Char → Bool} {a m b : Str} (ha : ∀ c ∈ a, p c) (hb : ∀ c ∈ b, p c)
    (hm : ∀ c ∈ m, p c = false) (hne : m ≠ []) :
    (((a ++ m ++ b).dropWhile p).reverse.dropWhile p).reverse = m := by
  rw [List.append_assoc, List.dropWhile_append_of_pos ha]
  cases m with
  | nil => exact absurd rfl hne
  | cons x xs =>
    rw [List.cons_append, List.dropWhile_cons_of_neg (by simp [hm x List.mem_cons_self]), ← List.cons_append,
      List.reverse_append, List.dropWhile_append_of_pos (fun c hc => hb c (List.mem_reverse.mp hc)),
      dropWhile_all_false _ _ (fun c hc => hm c (List.mem_reverse.mp hc)), List.reverse_reverse]

/-! ### the target: `splitHostPort` and `determineTarget` give back host and port of a rendered authority, in
each of the three request forms -/

theorem stripBrackets_host (a : Authority) (h : a.WF) :
    stripBrackets (if a.v6 then '[' :: a.host ++ [']'] else a.host) = a.host := by
  obtain ⟨hne, htok, _, _, hlb, hrb, _⟩ := h
  have nb (c : Char) (hc : c ∉ a.host) : ∀ x ∈ a.host, (x == c) = false :=
    fun x hx => beq_eq_false_iff_ne.mpr fun e => hc (e ▸ hx)
  have keep {p : Char → Bool} {m : Str} (hm : ∀ c ∈ m, p c = false) (hne : m ≠ []) :
      ((m.dropWhile p).reverse.dropWhile p).reverse = m := by
    simpa using trim_wrap (a := []) (b := []) nofun nofun hm hne
  unfold stripBrackets trim trimMatches
  cases a.v6
  · rw [if_neg Bool.false_ne_true, keep htok hne, keep (nb _ hlb) hne, keep (nb _ hrb) hne]
  · have t2 := trim_wrap (p := (· == '[')) (a := ['[']) (b := []) (m := a.host ++ [']']) (by simp) nofun
      (List.forall_mem_append.mpr ⟨nb _ hlb, List.forall_mem_singleton.mpr (by decide)⟩) (by simp)
    have t3 := trim_wrap (p := (· == ']')) (a := []) (b := [']']) nofun (by simp) (nb _ hrb) hne
    simp only [List.nil_append, List.append_nil, List.cons_append] at t2 t3
    rw [if_pos rfl, List.cons_append, keep (List.forall_mem_cons.mpr ⟨by decide, List.forall_mem_append.mpr
      ⟨htok, List.forall_mem_singleton.mpr (by decide)⟩⟩) (by simp), t2, t3]

theorem splitLast_none (c : Char) (s : Str) (h : c ∉ s) : splitLast c s = none := by
  fun_induction splitLast c s with
  | case1 => rfl
  | case2 x xs a b hs ih => rw [ih fun e => h (List.mem_cons_of_mem _ e)] at hs; cases hs
  | case3 xs hs ih => exact absurd List.mem_cons_self h
  | case4 x xs hs hx ih => rfl

theorem splitLast_append (c : Char) (a b : Str) (h : c ∉ b) : splitLast c (a ++ c :: b) = some (a, b) := by
  induction a with
  | nil => rw [List.nil_append, splitLast, splitLast_none c b h]; simp
  | cons x xs ih => rw [List.cons_append, splitLast, ih]

theorem splitLast_concat (c d : Char) (hd : d ≠ c) : ∀ (s : Str),
    splitLast c (s ++ [d]) = (splitLast c s).map fun ab => (ab.1, ab.2 ++ [d])
  | [] => by simp [splitLast, hd]
  | x :: xs => by
    rw [List.cons_append, splitLast, splitLast_concat c d hd xs, splitLast]
    cases splitLast c xs <;> by_cases hx : x = c <;> simp [hx]

theorem digitChar_val (n : Nat) (h : n < 10) : (digitChar n).toNat = 48 + n := by
  unfold digitChar Char.ofNat
  rw [dif_pos (Or.inl (by omega))]
  exact UInt32.toNat_ofNatLT ..

theorem digitChar_isDigit (n : Nat) (h : n < 10) : isDigit (digitChar n) = true := by
  unfold isDigit; rw [digitChar_val n h]; simp; omega

theorem digitsF_spec (f n : Nat) (h : n < f) :
    (digitsF f n ≠ []) ∧ (∀ c ∈ digitsF f n, isDigit c = true) ∧ decVal (digitsF f n) = n := by
  fun_induction digitsF f n with
  | case1 => omega
  | case2 f n hn =>
    exact ⟨nofun, List.forall_mem_singleton.mpr (digitChar_isDigit n hn), by simp [decVal, digitChar_val n hn]⟩
  | case3 f n hn ih =>
    obtain ⟨_, h2, h3⟩ := ih (by omega)
    refine ⟨by simp, List.forall_mem_append.mpr ⟨h2, List.forall_mem_singleton.mpr (digitChar_isDigit _ (by omega))⟩, ?_⟩
    unfold decVal at h3 ⊢
    rw [List.foldl_append, h3]
    simp [digitChar_val (n % 10) (by omega)]
    omega

theorem stripPlus_cons {c : Char} (t : Str) (hc : c ≠ '+') : stripPlus (c :: t) = c :: t := by
  unfold stripPlus
  split
  · rename_i r heq; cases heq; exact absurd rfl hc
  · rfl

theorem parseU16_digits (p : Nat) (hp : p < 65536) : parseU16 (digits p) = some p := by
  obtain ⟨h1, h2, h3⟩ := digitsF_spec (p + 1) p (by omega)
  unfold parseU16 digits
  cases hd : digitsF (p + 1) p with
  | nil => exact absurd hd h1
  | cons c t =>
    rw [hd] at h2 h3
    rw [stripPlus_cons t fun e => absurd (e ▸ h2 c List.mem_cons_self) (by decide)]
    simp only [List.isEmpty_cons, Bool.false_eq_true, if_false, List.all_eq_true.mpr h2, h3, if_true]
    rw [if_pos (by omega)]

theorem parseU16_bracket (s : Str) : parseU16 (s ++ [']']) = none := by
  obtain ⟨u, hu⟩ : ∃ u, stripPlus (s ++ [']']) = u ++ [']'] := by
    cases s with
    | nil => exact ⟨[], rfl⟩
    | cons c t =>
      by_cases hc : c = '+'
      · exact ⟨t, by rw [hc]; rfl⟩
      · exact ⟨c :: t, stripPlus_cons _ hc⟩
  have : isDigit ']' = false := by decide
  simp [parseU16, hu, this]

theorem splitHostPort_render (a : Authority) (d : Nat) (h : a.WF) :
    splitHostPort a.render d = (a.host, a.port.getD d) := by
  have hs := stripBrackets_host a h
  obtain ⟨_, _, _, _, _, hrb, hv6, hport⟩ := h
  unfold Authority.render splitHostPort
  -- without a port: a bare host has no `:` to split at; a bracketed one may be split at a `:` inside the brackets,
  -- but what follows then ends in `]` and is no port.  With a port the last `:` is the port's
  cases hp : a.port with
  | none =>
    rw [List.append_nil]
    cases hv : a.v6 with
    | false =>
      rw [hv, if_neg Bool.false_ne_true] at hs
      rw [if_neg Bool.false_ne_true, splitLast_none ':' _ fun hc => Bool.false_ne_true (hv.symm.trans (hv6.mpr hc))]
      exact congrArg (·, d) hs
    | true =>
      rw [hv, if_pos rfl] at hs
      rw [if_pos rfl, splitLast_concat ':' ']' (by decide)]
      cases splitLast ':' ('[' :: a.host) with
      | none => exact congrArg (·, d) hs
      | some ab => simpa [parseU16_bracket] using hs
  | some p =>
    rw [splitLast_append ':' _ (digits p) (fun hc => absurd ((digitsF_spec _ _ (Nat.lt_succ_self p)).2.1 _ hc) (by decide))]
    simp only [parseU16_digits p (hport p hp)]
    cases hv : a.v6 with
    | false =>
      have hnc : ':' ∉ a.host := fun hc => Bool.false_ne_true (hv.symm.trans (hv6.mpr hc))
      rw [hv] at hs
      simp only [Bool.false_eq_true, if_false] at hs ⊢
      rw [if_neg (by simp [hnc]), hs]; rfl
    | true =>
      rw [hv] at hs
      simp only [if_true] at hs ⊢
      rw [if_neg (by simp), hs]; rfl

theorem isWs_of_digit {c : Char} (h : isDigit c = true) : isWs c = false := by
  unfold isDigit at h
  unfold isWs
  simp only [Bool.and_eq_true, decide_eq_true_eq] at h
  simp only [Bool.or_eq_false_iff, Bool.and_eq_false_iff, decide_eq_false_iff_not, beq_eq_false_iff_ne]
  omega

theorem Authority.render_forall (a : Authority) (q : Char → Prop) (hh : ∀ c ∈ a.host, q c) (h1 : q '[') (h2 : q ']')
    (h3 : q ':') (hd : ∀ c, isDigit c = true → q c) : ∀ c ∈ a.render, q c := by
  unfold Authority.render
  refine List.forall_mem_append.mpr ⟨?_, ?_⟩
  · split
    · exact List.forall_mem_cons.mpr ⟨h1, List.forall_mem_append.mpr ⟨hh, List.forall_mem_singleton.mpr h2⟩⟩
    · exact hh
  · split
    · exact List.forall_mem_cons.mpr ⟨h3, fun c hc => hd c ((digitsF_spec _ _ (Nat.lt_succ_self _)).2.1 c hc)⟩
    · nofun

theorem Authority.render_tokenOk (a : Authority) (h : a.WF) : tokenOk a.render :=
  Authority.render_forall a _ h.2.1 (by decide) (by decide) (by decide) fun _ => isWs_of_digit

theorem Authority.render_ne (a : Authority) (h : a.WF) : a.render ≠ [] := fun e => by
  have := (List.append_eq_nil_iff.mp e).1
  split at this
  · cases this
  · exact h.1 this

theorem find_hostLine (pre post : List Str) (l : Str) (hpre : ∀ x ∈ pre, isHostLine x = false) (hl : isHostLine l = true) :
    (pre ++ [l] ++ post).find? isHostLine = some l :=
  List.find?_eq_some_iff_append.mpr ⟨hl, pre, post, List.append_assoc .., fun x hx => congrArg not (hpre x hx)⟩

theorem determineTarget_scheme (https : Bool) (x : Str) :
    let s := (if https then "https://".toList else "http://".toList) ++ x
    startsWith "http://".toList s = !https ∧ startsWith "https://".toList s = https ∧
    findSub "://".toList s = some (if https then 5 else 4) ∧ s.drop ((if https then 5 else 4) + 3) = x := by
  cases https <;> simp [startsWith, findSub, List.isPrefixOf]

theorem originOf_slash (t : Str) : originOf ('/' :: t) = '/' :: t := rfl
theorem originOf_q (t : Str) : originOf ('?' :: t) = '/' :: '?' :: t := rfl
theorem originOf_nil : originOf [] = ['/'] := rfl

theorem determineTarget_absolute (method : Str) (headers : List Str) (a : Authority) (ha : a.WF) (https : Bool) (pq : Str)
    (hpq : pq = [] ∨ ∃ t, pq = '/' :: t ∨ pq = '?' :: t) (hnc : eqIgnoreCase method "CONNECT".toList = false) :
    determineTarget method ((if https then "https://".toList else "http://".toList) ++ (a.render ++ pq)) headers
      = .ok (a.host, a.port.getD (if https then 443 else 80), originOf pq, false) := by
  have stop {c : Char} (h1 : c ≠ '/') (h2 : c ≠ '?') : (!authorityEnd c) = true := by simp [authorityEnd, h1, h2]
  have hstop : ∀ c ∈ a.render, (!authorityEnd c) = true :=
    Authority.render_forall a _ (fun c hc => stop (fun e => ha.2.2.1 (e ▸ hc)) fun e => ha.2.2.2.1 (e ▸ hc))
      (by decide) (by decide) (by decide)
      fun c hc => stop (fun e => by rw [e] at hc; cases hc) fun e => by rw [e] at hc; cases hc
  obtain ⟨s1, s2, s3, s4⟩ := determineTarget_scheme https (a.render ++ pq)
  unfold determineTarget
  rw [if_neg (by rw [hnc]; simp), s1, s2, s3]
  simp only [s4, Bool.not_or_self, if_true, Bool.true_and, List.takeWhile_append_of_pos hstop,
    List.dropWhile_append_of_pos hstop]
  -- what is left of `determineTarget` runs on `pq`, whose first character is known (none, `/`, `?`)
  rcases hpq with rfl | ⟨t, rfl | rfl⟩ <;>
    simp [startsWith, originOf, authorityEnd, Authority.render_ne a ha, splitHostPort_render a _ ha]

theorem determineTarget_origin (method : Str) (headers : List Str) (a : Authority) (ha : a.WF) (path l : Str)
    (hpath : (∃ t, path = '/' :: t) ∨ path = ['*'])
    (hfind : headers.find? isHostLine = some l) (htrim : trim (l.drop 5) = a.render)
    (hnc : eqIgnoreCase method "CONNECT".toList = false) :
    determineTarget method path headers = .ok (a.host, a.port.getD 80, path, false) := by
  unfold determineTarget
  rw [if_neg (by rw [hnc]; simp)]
  -- a path `/…` or `*` fails both scheme tests
  rcases hpath with ⟨t, rfl⟩ | rfl <;>
    simp [startsWith, hfind, htrim, Authority.render_ne a ha, splitHostPort_render a 80 ha]

theorem determineTarget_connect (method : Str) (headers : List Str) (a : Authority) (ha : a.WF)
    (hc : method = "CONNECT".toList) :
    determineTarget method a.render headers = .ok (a.host, a.port.getD 443, [], true) := by
  unfold determineTarget
  rw [if_pos (by rw [hc]; decide)]
  simp only [splitHostPort_render a 443 ha]

theorem determineTarget_wellformed (r : Req) (h : r.WF) :
    determineTarget r.method r.target r.lines = .ok (r.auth.host, r.port, r.originTarget, r.isConnect) := by
  obtain ⟨method, form, auth, version, pre, hostLine, post⟩ := r
  obtain ⟨_, _, _, _, hauth, hothers, hhost, hform⟩ := h
  cases form with
  | connect =>
    simp only [Req.target, Req.port, Req.originTarget, Req.isConnect]
    rw [determineTarget_connect _ _ auth hauth hform]
    cases auth.port <;> rfl
  | absolute https pq =>
    obtain ⟨hnc, _, hpq⟩ := hform
    simp only [Req.target, Req.port, Req.originTarget, Req.isConnect]
    rw [List.append_assoc, determineTarget_absolute _ _ auth hauth https pq hpq hnc]
    cases auth.port <;> rfl
  | origin path =>
    obtain ⟨hnc, _, hpath, l, hl, htrim⟩ := hform
    simp only at hl
    subst hl
    simp only [Req.target, Req.port, Req.originTarget, Req.isConnect, Req.lines, Option.toList_some]
    rw [determineTarget_origin _ _ auth hauth path l hpath
      (find_hostLine pre post l (fun x hx => (hothers x (List.mem_append_left _ hx)).2) (hhost l rfl).2) htrim hnc]
    cases auth.port <;> rfl

/-! ### `parseRequest` takes a rendered request apart into what it was rendered from -/

theorem target_token (r : Req) (h : r.WF) : r.target ≠ [] ∧ tokenOk r.target := by
  obtain ⟨method, form, auth, version, pre, hostLine, post⟩ := r
  obtain ⟨_, _, _, _, hauth, _, _, hform⟩ := h
  have rtok := Authority.render_tokenOk auth hauth
  cases form with
  | connect => exact ⟨Authority.render_ne auth hauth, rtok⟩
  | absolute https pq =>
    exact ⟨by cases https <;> simp [Req.target], List.forall_mem_append.mpr
      ⟨List.forall_mem_append.mpr ⟨by cases https <;> decide, rtok⟩, hform.2.1⟩⟩
  | origin path =>
    refine ⟨?_, hform.2.1⟩
    rcases hform.2.2.1 with ⟨t, e⟩ | e <;> simp [Req.target, e]

theorem requestLine_no_cr (r : Req) (h : r.WF) : '\r' ∉ r.method ++ ' ' :: r.target ++ ' ' :: r.version := by
  have nocr {s : Str} (hs : tokenOk s) : ∀ c ∈ s, c ≠ '\r' := fun c hc e => by
    have := hs c hc; rw [e] at this; cases this
  exact fun hm => List.forall_mem_append.mpr
    ⟨List.forall_mem_append.mpr ⟨nocr h.2.1, List.forall_mem_cons.mpr ⟨by decide, nocr (target_token r h).2⟩⟩,
      List.forall_mem_cons.mpr ⟨by decide, nocr h.2.2.2.1⟩⟩ _ hm rfl

theorem lines_ok (r : Req) (h : r.WF) : ∀ l ∈ r.lines, lineOk l := by
  obtain ⟨_, _, _, _, _, hothers, hhost, _⟩ := h
  intro l hl
  simp only [Req.lines, List.mem_append, Option.mem_toList] at hl
  rcases hl with (hl | hl) | hl
  · exact (hothers l (List.mem_append_left _ hl)).1
  · exact (hhost l hl).1
  · exact (hothers l (List.mem_append_right _ hl)).1

theorem filter_nonempty (ls : List Str) (h : ∀ l ∈ ls, l ≠ []) :
    (ls ++ [[], []]).filter (fun l => !l.isEmpty) = ls := by
  rw [List.filter_append, List.filter_eq_self.mpr fun l hl => by simp [h l hl]]
  exact List.append_nil ls

theorem parseRequest_wellformed (r : Req) (body : Bytes) (h : r.WF) :
    parseRequest r.render body = .ok (r.parsed body) := by
  have hdt := determineTarget_wellformed r h
  have ⟨htne, httok⟩ := target_token r h
  have hlines := lines_ok r h
  have hcr := requestLine_no_cr r h
  obtain ⟨hmne, hmtok, hvne, hvtok, _⟩ := h
  have hsplit : splitCRLF r.render = (r.method ++ ' ' :: r.target ++ ' ' :: r.version) :: (r.lines ++ [[], []]) := by
    unfold Req.render
    rw [List.append_assoc, List.append_assoc]
    exact (splitCRLF_line _ _ hcr).trans (congrArg _
      ((splitCRLF_lines r.lines crlf fun l hl => (hlines l hl).2).trans (congrArg _ (by decide))))
  unfold parseRequest
  rw [hsplit]
  simp only [List.headD_cons, List.tail_cons]
  rw [splitWs_three r.method r.target r.version hmne htne hvne hmtok httok hvtok,
    filter_nonempty r.lines (fun l hl => (hlines l hl).1)]
  simp only [List.headD_cons, hdt]
  rfl

theorem parseRequest_body (h : Str) (b : Bytes) (q : Parsed) (hp : parseRequest h b = .ok q) : q.body = b := by
  revert hp
  fun_cases parseRequest h b <;> intro hp <;> cases hp
  rfl

/-! ### `buildForward` touches the Host line only -/

theorem flatMap_nonHost (X : Str) (ls : List Str) (h : ∀ l ∈ ls, lineOk l ∧ isHostLine l = false) :
    ls.flatMap (fun h => if h.isEmpty then [] else if isHostLine h then X else h ++ crlf) = ls.flatMap (· ++ crlf) ∧
    ls.any (fun h => !h.isEmpty && isHostLine h) = false := by
  refine ⟨?_, List.any_eq_false.mpr fun l hl => by simp [(h l hl).2]⟩
  rw [List.flatMap_def, List.flatMap_def, List.map_congr_left fun l hl => by
    rw [if_neg (by simp [(h l hl).1.1]), if_neg (by simp [(h l hl).2])]]

theorem originTarget_isEmpty (r : Req) (h : r.WF) (hc : r.isConnect = false) : r.originTarget.isEmpty = false := by
  obtain ⟨method, form, auth, version, pre, hostLine, post⟩ := r
  cases form with
  | connect => cases hc
  | absolute https pq => simp only [Req.originTarget, originOf]; split <;> rfl
  | origin path =>
    have hpath : (∃ t, path = '/' :: t) ∨ path = ['*'] := h.2.2.2.2.2.2.2.2.2.1
    rcases hpath with ⟨t, e⟩ | e <;> simp [Req.originTarget, e]

theorem hostLineOut_eq (r : Req) (h : r.WF) (body : Bytes) : hostLineOut (r.parsed body) = r.normHost ++ crlf := by
  have hv6 : r.auth.v6 = true ↔ ':' ∈ r.auth.host := h.2.2.2.2.1.2.2.2.2.2.2.1
  have hcol : r.auth.host.contains ':' = r.auth.v6 := by
    cases hv : r.auth.v6 <;> simp [hv] at hv6 ⊢ <;> exact hv6
  unfold hostLineOut hostValue Req.normHost Req.parsed
  simp only [hcol]
  split <;> simp

theorem buildForward_wellformed (r : Req) (body : Bytes) (h : r.WF) (hc : r.isConnect = false) :
    buildForward (r.parsed body) = r.forwarded := by
  have hot := originTarget_isEmpty r h hc
  have hlo := hostLineOut_eq r h body
  obtain ⟨_, _, _, _, _, hothers, hhost, _⟩ := h
  have hpre := flatMap_nonHost (r.normHost ++ crlf) r.pre fun l hl => hothers l (List.mem_append_left _ hl)
  have hpost := flatMap_nonHost (r.normHost ++ crlf) r.post fun l hl => hothers l (List.mem_append_right _ hl)
  unfold buildForward Req.forwarded
  rw [hlo]
  obtain ⟨method, form, auth, version, pre, hostLine, post⟩ := r
  simp only [Req.parsed, Req.lines] at hot hpre hpost ⊢
  -- `hot`, `hpre`, `hpost` and the two facts of the Host line decide every `if` of `buildForward`; what the
  -- `simp only` then does is `flatMap` / `any` over `pre ++ hostLine.toList ++ post` and reassociating `++`
  cases hostLine with
  | none =>
    simp only [hot, hpre, hpost, Option.toList_none, List.append_nil, List.flatMap_append, List.any_append,
      Bool.or_false, Bool.false_eq_true, if_false, List.flatMap_cons, List.flatMap_nil, List.append_assoc]
  | some l =>
    simp only [hot, hpre, hpost, List.isEmpty_eq_false_iff.mpr (hhost l rfl).1.1, (hhost l rfl).2, Option.toList_some,
      List.flatMap_append, List.any_append, List.flatMap_cons, List.flatMap_nil, List.append_nil, Bool.false_eq_true,
      if_false, if_true, List.any_cons, List.any_nil, Bool.not_false, Bool.and_true, Bool.or_true, List.append_assoc,
      Bool.or_false]

/-! ### a rendered request ends at its own terminator: no line holds byte 13, so there is no earlier `\r\n\r\n` -/

theorem utf8Encode_no_cr (l : Str) (h : '\r' ∉ l) : (13 : UInt8) ∉ utf8Encode l := by
  intro hm
  obtain ⟨c, hc, hb⟩ := List.mem_flatMap.mp hm
  have : (13 : UInt8).toNat = c.toNat := (Utf8Seq.of_encodeChar c).toNat_eq_of_lt hb (by decide)
  have : c = '\r' := by rw [← Char.ofNat_toNat c, ← this]; rfl
  exact h (this ▸ hc)

theorem findHeaderEnd_skip : ∀ (B X : Bytes), (13 : UInt8) ∉ B →
    findHeaderEnd (B ++ X) = (findHeaderEnd X).map (· + B.length)
  | [], X, _ => by simp
  | b :: t, X, h => by
    rw [List.cons_append, findHeaderEnd_cons,
      if_neg fun hp => h (by rw [← (List.cons_prefix_cons.mp hp).1]; exact List.mem_cons_self),
      findHeaderEnd_skip t X fun e => h (List.mem_cons_of_mem _ e), Option.map_map]
    rfl

theorem utf8Encode_crlf : utf8Encode crlf = [13, 10] := by decide

theorem findHeaderEnd_crlf_skip (B X : Bytes) (hne : B ≠ []) (h13 : (13 : UInt8) ∉ B) :
    findHeaderEnd ([13, 10] ++ (B ++ X)) = (findHeaderEnd X).map (· + (B.length + 2)) := by
  cases B with
  | nil => exact absurd rfl hne
  | cons x xs =>
    have hx : (13 : UInt8) ≠ x := fun e => h13 (e ▸ List.mem_cons_self)
    rw [List.cons_append, List.cons_append, List.cons_append, List.nil_append, findHeaderEnd_cons,
      if_neg (by simp [terminator, hx]), findHeaderEnd_cons,
      if_neg (by simp [terminator]), ← List.cons_append, findHeaderEnd_skip _ X h13, Option.map_map, Option.map_map]
    rfl

theorem findHeaderEnd_lines : ∀ (ls : List Str), (∀ l ∈ ls, lineOk l) →
    findHeaderEnd ([13, 10] ++ utf8Encode (ls.flatMap (· ++ crlf) ++ crlf)) =
      some ((utf8Encode (ls.flatMap (· ++ crlf) ++ crlf)).length + 2)
  | [], _ => by decide
  | l :: t, h => by
    have hl := h l List.mem_cons_self
    rw [List.flatMap_cons, List.append_assoc, utf8Encode_append, utf8Encode_append, utf8Encode_crlf, List.append_assoc,
      findHeaderEnd_crlf_skip _ _ (utf8Encode_ne_nil l hl.1) (utf8Encode_no_cr l hl.2), findHeaderEnd_lines t fun x hx => h x (List.mem_cons_of_mem _ hx)]
    simp only [Option.map_some, List.length_append, List.length_cons, List.length_nil]
    congr 1
    omega

theorem header_end_render (r : Req) (h : r.WF) (rest : Bytes) :
    findHeaderEnd (utf8Encode r.render ++ rest) = some (utf8Encode r.render).length := by
  refine ((findHeaderEnd_append rest _ _).mp ?_).1
  have e : r.render = (r.method ++ ' ' :: r.target ++ ' ' :: r.version) ++ (crlf ++ (r.lines.flatMap (· ++ crlf) ++ crlf)) := by
    unfold Req.render; simp only [List.append_assoc]
  rw [e, utf8Encode_append, utf8Encode_append crlf, utf8Encode_crlf, findHeaderEnd_skip _ _ (utf8Encode_no_cr _ (requestLine_no_cr r h)),
    findHeaderEnd_lines r.lines (lines_ok r h)]
  simp only [Option.map_some, List.length_append, List.length_cons, List.length_nil]
  congr 1
  omega

/-! ### the connection: `conn` does nothing, or the two effects of the parsed request and then `relayed` -/

/-- what follows the first two effects: the bytes read with the header block (if any), then one
`send` per later read -/
def relayed (rem : Bytes) (later : List Bytes) : List Ev :=
  (if rem.isEmpty then [] else [Ev.send rem]) ++ later.map Ev.send

theorem conn_parsed {M : Nat} {chunks later : List Bytes} {hdr rem : Bytes} {h : Str} {q : Parsed}
    (hr : readHeader M [] chunks = .ok hdr rem later) (hd : utf8Decode hdr = some h)
    (hp : parseRequest h rem = .ok q) :
    conn M chunks true = .openTunnel q.host q.port ::
      (if q.isConnect then .reply reply200 else .send (utf8Encode (buildForward q))) :: relayed rem later ∧
    conn M chunks false = [.openTunnel q.host q.port, .reply reply502] := by
  have hb := parseRequest_body h rem q hp
  unfold conn connAfterHeader relayed
  rw [hr]
  simp only [hd, hp, hb]
  cases q.isConnect <;> exact ⟨rfl, rfl⟩

theorem conn_cases (M : Nat) (chunks : List Bytes) (ok : Bool) :
    conn M chunks ok = [] ∨ ∃ hdr rem later h q, readHeader M [] chunks = .ok hdr rem later ∧
      utf8Decode hdr = some h ∧ parseRequest h rem = .ok q := by
  unfold conn
  split
  · exact .inl rfl
  · rename_i hdr rem later hr
    fun_cases connAfterHeader hdr rem ok
    · exact .inl rfl
    · exact .inl rfl
    · exact .inr ⟨_, _, _, _, _, hr, ‹_›, ‹_›⟩
    · exact .inr ⟨_, _, _, _, _, hr, ‹_›, ‹_›⟩

end AnyTLS.Http
