/-
Lemmas about M2 (`Model/Reader.lean`): `RState.WF`; the three outcomes of one `read` (`read_spec`, from
`recvLoop_spec`): what is returned was the front of `pending` and nothing else moves; `push` and `closeChan` on
`pending`; `readExact_spec`.
-/
import AnyTLS.Model.Reader

namespace AnyTLS

/-- reader well-formedness: once `eof` is set the channel is closed and drained -/
def RState.WF (r : RState) : Prop := r.eof = true → r.chanOpen = false ∧ r.queue = []

theorem take_ne_nil {c : Bytes} {n : Nat} (hc : c ≠ []) (hn : n ≠ 0) : c.take n ≠ [] :=
  fun h => (List.take_eq_nil_iff.mp h).elim hn hc

theorem recvLoop_spec (n : Nat) (hn : n ≠ 0) (q : List Bytes) (co : Bool) :
    match recvLoop n q co with
    | (.data b, q', rb, e) => b ≠ [] ∧ b ++ rb ++ flatten q' = flatten q ∧ e = false ∧ b.length ≤ n
    | (.eof, q', rb, e) => co = false ∧ flatten q = [] ∧ q' = [] ∧ rb = [] ∧ e = true
    | (.block, _, _, _) => co = true ∧ flatten q = [] := by
  fun_induction recvLoop n q co with
  | case1 => exact ⟨rfl, rfl⟩
  | case2 co h => exact ⟨(Bool.not_eq_true _).mp h, rfl, rfl, rfl, rfl⟩
  | case3 c q co h ih =>
    have : c = [] := List.isEmpty_iff.mp (Bool.and_eq_true_iff.mp h).1
    subst this
    exact ih
  | case4 c q co h =>
    have hne : c ≠ [] := fun e => h (by simp [e, hn])
    exact ⟨take_ne_nil hne hn, by rw [List.take_append_drop]; rfl, rfl, List.length_take_le n c⟩

/-- what one `read` with outcome `out` has done (`generalizing := false`: otherwise the `match` takes `h` along as a second
discriminant) -/
theorem read_spec {r : RState} {n : Nat} (hn : n ≠ 0) (hwf : r.WF) {out : ReadOut} {r' : RState} (h : r.read n = (out, r')) :
    match (generalizing := false) out with
    | .data b => b ≠ [] ∧ b.length ≤ n ∧ b ++ r'.pending = r.pending ∧ r'.chanOpen = r.chanOpen ∧ r'.WF
    | .eof => r.pending = [] ∧ r.chanOpen = false ∧ r'.pending = [] ∧ r'.chanOpen = false ∧ r'.WF
    | .block => r' = r ∧ r.pending = [] ∧ r.chanOpen = true := by
  have hs := recvLoop_spec n hn r.queue r.chanOpen
  revert h
  -- the branches of `RState.read`: the end was reported before (1); bytes are left of the last chunk (2); `recvLoop` blocks (3)
  -- or returns (4)
  fun_cases RState.read r n with
  | case1 h =>
    rintro ⟨⟩
    obtain ⟨he, hb⟩ := Bool.and_eq_true_iff.mp h
    obtain ⟨hc, hq⟩ := hwf he
    have hp : r.pending = [] := by rw [RState.pending, List.isEmpty_iff.mp hb, hq]; rfl
    exact ⟨hp, hc, hp, hc, hwf⟩
  | case2 h1 h2 =>
    rintro ⟨⟩
    have hne : r.rbuf ≠ [] := fun e => by simp [e] at h2
    exact ⟨take_ne_nil hne hn, List.length_take_le n _,
      by simp [RState.pending, ← List.append_assoc, List.take_append_drop], rfl, hwf⟩
  | case3 h1 h2 q' rb e x =>
    rintro ⟨⟩
    rw [x] at hs
    have hrb : r.rbuf = [] := by simpa using h2
    exact ⟨rfl, by rw [RState.pending, hrb, hs.2]; rfl, hs.1⟩
  | case4 h1 h2 out q' rb e hne x =>
    rintro ⟨⟩
    rw [x] at hs
    have hrb : r.rbuf = [] := by simpa using h2
    have he : r.eof = false := by simpa [hrb] using h1
    cases out with
    | data b =>
      obtain ⟨hb, hcat, he', hlen⟩ := hs
      refine ⟨hb, hlen, ?_, rfl, fun h => ?_⟩
      · simp [RState.pending, hrb, ← hcat, List.append_assoc]
      · simp [he, he'] at h
    | eof =>
      obtain ⟨hco, hq, hq', hrb', he'⟩ := hs
      exact ⟨by simp [RState.pending, hrb, hq], hco, by simp [RState.pending, hq', hrb'], hco,
        fun _ => ⟨hco, hq'⟩⟩
    | block => exact absurd rfl hne

theorem push_pending (r : RState) (c : Bytes) (h : r.chanOpen = true) :
    (r.push c).pending = r.pending ++ c := by
  simp [RState.push, h, RState.pending, flatten_append, List.append_assoc]

theorem foldl_push (cs : List Bytes) (r : RState) (h : r.chanOpen = true) :
    (cs.foldl RState.push r).pending = r.pending ++ flatten cs ∧ (cs.foldl RState.push r).chanOpen = true := by
  induction cs generalizing r with
  | nil => simp [h]
  | cons c cs ih =>
    obtain ⟨a, b⟩ := ih (r.push c) (by simp [RState.push, h])
    exact ⟨by rw [List.foldl_cons, a, push_pending r c h, flatten_cons, List.append_assoc], b⟩

theorem push_WF (r : RState) (c : Bytes) (h : r.WF) : (r.push c).WF := by
  unfold RState.push
  split
  · exact fun he => absurd (h he).1 (by simp [*])
  · exact h

theorem closeChan_WF (r : RState) (h : r.WF) : r.closeChan.WF := fun he => ⟨rfl, (h he).2⟩

theorem closeChan_pending (r : RState) : r.closeChan.pending = r.pending := rfl

theorem readExactFuel_spec (fuel : Nat) (r : RState) (need : Nat) (acc : Bytes)
    (hwf : r.WF) (h1 : need ≤ fuel) (h2 : need ≤ r.pending.length) :
    ∃ r', RState.readExactFuel fuel r need acc = (.ok (acc ++ r.pending.take need), r') ∧
      r'.pending = r.pending.drop need ∧ r'.WF ∧ r'.chanOpen = r.chanOpen := by
  fun_induction RState.readExactFuel fuel r need acc with
  | case1 t r acc => exact ⟨r, by simp, by simp, hwf, rfl⟩
  | case2 => omega
  | case3 fuel r m acc b r' hr hb =>
    have hs := read_spec (Nat.succ_ne_zero m) hwf hr
    exact absurd (List.isEmpty_iff.mp hb) hs.1
  | case4 fuel r m acc b r' hr hb ih =>
    have hs := read_spec (Nat.succ_ne_zero m) hwf hr
    obtain ⟨hb', hlen, hcat, hco, hwf1⟩ := hs
    have hbl : 0 < b.length := List.length_pos_iff.mpr hb'
    rw [← hcat, List.length_append] at h2
    obtain ⟨r'', he, hp, hw, hc⟩ := ih hwf1 (by omega) (by omega)
    refine ⟨r'', ?_, ?_, hw, by rw [hc, hco]⟩
    · rw [he, ← hcat, List.take_append, List.take_of_length_le hlen, List.append_assoc]
    · rw [hp, ← hcat, List.drop_append, List.drop_of_length_le hlen, List.nil_append]
  | case5 fuel r m acc r' hr =>
    have hs := read_spec (Nat.succ_ne_zero m) hwf hr
    rw [hs.1] at h2; cases h2
  | case6 fuel r m acc r' hr =>
    have hs := read_spec (Nat.succ_ne_zero m) hwf hr
    rw [hs.2.1] at h2; cases h2

/-- `read_exact` is fragmentation-independent: whenever at least `n` bytes are deliverable, it
returns exactly the first `n` of them — whatever the chunking — and leaves the rest. -/
theorem readExact_spec (r : RState) (n : Nat) (hwf : r.WF) (h : n ≤ r.pending.length) :
    ∃ r', r.readExact n = (.ok (r.pending.take n), r') ∧
      r'.pending = r.pending.drop n ∧ r'.WF ∧ r'.chanOpen = r.chanOpen :=
  readExactFuel_spec n r n [] hwf (Nat.le_refl _) h

end AnyTLS
