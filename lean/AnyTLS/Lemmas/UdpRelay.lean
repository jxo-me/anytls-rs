import AnyTLS.Model.UdpRelay
import AnyTLS.Lemmas.Dest
import AnyTLS.Lemmas.Relay

namespace AnyTLS.UdpRelay
open Gen (SliceKind ReadWrap)

/-- udp → stream with `&buf[..len]`: one chunk per datagram, each the exact length-prefixed datagram, whatever earlier
    datagrams left in the buffer -/
theorem toStream_prefixN (mx : Nat) : ∀ (ds : List Bytes) (buf : Bytes), (∀ d ∈ ds, d.length ≤ mx) →
    toStream mx .prefixN buf ds = ds.map (fun d => be16 d.length ++ d) := by
  intro ds
  induction ds with
  | nil => intro buf _; rfl
  | cons d ds ih =>
    intro buf h
    obtain ⟨hd, h⟩ := List.forall_mem_cons.mp h
    rw [toStream, Relay.slice_prefixN, encodeDgram, if_neg (Nat.not_lt.mpr hd), ih _ h]
    rfl

theorem flatten_map_enc : ∀ ds : List Bytes, flatten (ds.map (fun d => be16 d.length ++ d)) = encodeAll ds := by
  intro ds
  induction ds with
  | nil => rfl
  | cons d ds ih => simp [encodeAll, ih, List.append_assoc]

/-- the datagram in progress is shorter than the encoding of the next datagram -/
def Short (acc : Bytes) : List Bytes → Prop
  | [] => True
  | d :: _ => acc.length < 2 + d.length

theorem cut_cons {mx f : Nat} {d t : Bytes} (h1 : 1 ≤ d.length) (h2 : d.length ≤ 65535) (h3 : d.length ≤ mx) :
    cut mx (f + 1) (be16 d.length ++ d ++ t) = ⟨d :: (cut mx f t).out, (cut mx f t).rest, (cut mx f t).ended⟩ := by
  show cut mx (f + 1) (UInt8.ofNat (d.length / 256 % 256) :: UInt8.ofNat (d.length % 256) :: (d ++ t)) = _
  rw [cut, rd16_ofNat d.length (by omega), if_neg (by rw [beq_iff_eq]; omega), if_neg (by omega), if_neg (by simp),
    List.take_left' rfl, List.drop_left' rfl]

theorem cut_short {mx fuel : Nat} {d p s e : Bytes} (h1 : 1 ≤ d.length) (h2 : d.length ≤ 65535) (h3 : d.length ≤ mx)
    (hp : p ++ s = be16 d.length ++ (d ++ e)) (hlt : p.length < 2 + d.length) : cut mx fuel p = ⟨[], p, false⟩ := by
  rcases p with _ | ⟨h, _ | ⟨l, t⟩⟩
  · cases fuel <;> rfl
  · cases fuel <;> rfl
  · injection hp with hh hp
    injection hp with hl _
    cases fuel with
    | zero => rfl
    | succ f =>
      rw [cut, hh, hl, rd16_ofNat d.length (by omega), if_neg (by rw [beq_iff_eq]; omega), if_neg (by omega),
        if_pos (by simp only [List.length_cons] at hlt; omega)]

/-- cutting any prefix `p` of the wire image of `rem`: the complete datagrams come out unchanged, one each, in order;
    what is left is the incomplete front of the next one -/
theorem cut_prefix (mx : Nat) : ∀ (rem : List Bytes), (∀ d ∈ rem, 1 ≤ d.length ∧ d.length ≤ 65535 ∧ d.length ≤ mx) →
    ∀ (p s : Bytes) (fuel : Nat), p ++ s = encodeAll rem → p.length ≤ fuel →
    ∃ ds1 rem' acc', cut mx fuel p = ⟨ds1, acc', false⟩ ∧ rem = ds1 ++ rem' ∧ acc' ++ s = encodeAll rem' ∧ Short acc' rem' := by
  intro rem
  induction rem with
  | nil =>
    intro _ p s fuel hp _
    obtain ⟨rfl, rfl⟩ := List.append_eq_nil_iff.mp hp
    exact ⟨[], [], [], by cases fuel <;> rfl, rfl, rfl, trivial⟩
  | cons d rem0 ih =>
    intro hall p s fuel hp hfuel
    obtain ⟨⟨h1, h2, h3⟩, hall⟩ := List.forall_mem_cons.mp hall
    rw [encodeAll, List.append_assoc] at hp
    by_cases hlt : p.length < 2 + d.length
    · exact ⟨[], d :: rem0, p, cut_short h1 h2 h3 hp hlt, rfl, by rw [hp, encodeAll, List.append_assoc], hlt⟩
    · -- `p` holds the whole first datagram
      obtain ⟨p', rfl⟩ : be16 d.length ++ d <+: p :=
        List.prefix_of_prefix_length_le (l₃ := p ++ s) ⟨_, by rw [hp, List.append_assoc]⟩ ⟨s, rfl⟩
          (by rw [List.length_append, be16_length]; omega)
      rw [List.append_assoc, List.append_assoc] at hp
      have hp' := List.append_cancel_left (List.append_cancel_left hp)
      cases fuel with
      | zero => simp [be16_length] at hfuel
      | succ f =>
        obtain ⟨ds1, rem', acc', hc, hrem, hacc, hshort⟩ :=
          ih hall p' s f hp' (by simp only [List.length_append, be16_length] at hfuel; omega)
        exact ⟨d :: ds1, rem', acc', by rw [cut_cons h1 h2 h3, hc], by rw [hrem]; rfl, hacc, hshort⟩
/-- stream → udp with a bare read and `send_to(&payload)`: whatever the chunk boundaries of the tunnel stream and whenever
    timers fire, the socket sends exactly the datagrams whose wire image the stream carries -/
theorem toUdp_bare_exact (mx : Nat) : ∀ (evs : List Ev) (acc : Bytes) (rem : List Bytes),
    (∀ d ∈ rem, 1 ≤ d.length ∧ d.length ≤ 65535 ∧ d.length ≤ mx) →
    acc ++ flatten (chunksOf evs) = encodeAll rem → Short acc rem →
    toUdp mx .whole .bare acc evs = rem := by
  intro evs
  induction evs with
  | nil =>
    intro acc rem _ hacc hshort
    cases rem with
    | nil => rfl
    | cons d ds =>
      -- no event is left, so `acc` is the whole image of `d :: ds`, and `Short` says it is not even that of `d`
      have : 2 + d.length ≤ (be16 d.length ++ d ++ encodeAll ds).length := by
        rw [List.length_append, List.length_append, be16_length]; omega
      rw [← encodeAll, ← hacc, chunksOf, flatten_nil, List.append_nil] at this
      exact absurd hshort (Nat.not_lt.mpr this)
  | cons e es ih =>
    intro acc rem hall hacc hshort
    cases e with
    | tick =>
      show toUdp mx .whole .bare acc es = rem
      exact ih acc rem hall (by simpa [chunksOf] using hacc) hshort
    | chunk b =>
      simp only [chunksOf, flatten_cons] at hacc
      obtain ⟨ds1, rem', acc', hc, rfl, hacc', hshort'⟩ :=
        cut_prefix mx rem hall (acc ++ b) (flatten (chunksOf es)) (acc ++ b).length
          (by rw [List.append_assoc]; exact hacc) (Nat.le_refl _)
      simp only [toUdp, hc, Bool.false_eq_true, if_false]
      rw [show sendSlice .whole = id from rfl, List.map_id,
        ih acc' rem' (List.forall_mem_append.mp hall).2 hacc' hshort']

end AnyTLS.UdpRelay
