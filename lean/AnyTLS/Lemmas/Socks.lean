/- Lemmas about M8 (`Model/Socks.lean`): `socksGreeting` on each form of input, `socksRequest` on a well-formed request. -/
import AnyTLS.Model.Socks
import AnyTLS.Lemmas.Dest

namespace AnyTLS

/-- the one case in which `authenticate` answers: version 5 and a non-empty method list that has arrived completely -/
theorem socksGreeting_complete {nm : UInt8} {rest : Bytes} (hn : nm ≠ 0) (hl : nm.toNat ≤ rest.length) :
    socksGreeting (5 :: nm :: rest)
      = if (rest.take nm.toNat).contains 0 then .ok (2 + nm.toNat) else .close [5, 0xFF] := by
  rw [socksGreeting, if_neg (by decide), if_neg (by simpa using hn), if_neg (Nat.not_lt.mpr hl)]

/-- and only then: a verdict other than "wait" and "close without a reply" means the greeting was of that form -/
theorem socksGreeting_complete_of_reply {inp : Bytes} {g : Greet} (h : socksGreeting inp = g) (h1 : g ≠ .needMore) (h2 : g ≠ .close []) :
    ∃ nm rest, inp = 5 :: nm :: rest ∧ nm ≠ 0 ∧ nm.toNat ≤ rest.length := by
  subst h
  revert h1 h2
  -- the branches of `socksGreeting`: 1 wrong version, 2 no methods, 3 methods incomplete, 4 / 5 answered, 6 under two bytes
  fun_cases socksGreeting inp <;> intro h1 h2
  case case1 | case2 => exact absurd rfl h2
  case case3 | case6 => exact absurd rfl h1
  all_goals
    rename_i ver nm rest hv hn hl _
    exact ⟨nm, rest, by rw [Decidable.of_not_not (mt bne_iff_ne.mpr hv)], mt beq_iff_eq.mpr hn, Nat.not_lt.mp hl⟩

/-- the reserved byte is not looked at -/
theorem socksRequest_body (cmd rsv : UInt8) (d : Dest) (hd : d.WF) (rest : Bytes) :
    socksRequest (5 :: cmd :: rsv :: d.atyp :: (d.body ++ rest)) = .ok ⟨cmd, d⟩ (d.body.length + 4) := by
  cases d with
  | v4 a p | v6 a p =>
    obtain ⟨ha, hp⟩ := hd
    simp [socksRequest, Dest.atyp, Dest.body, List.append_assoc, List.take_left' ha, List.drop_left' ha,
      portOf_be16_append p hp, ha, be16_length]
    omega
  | domain d p =>
    obtain ⟨h1, h2, hu, hp⟩ := hd
    have hlen : (UInt8.ofNat d.length).toNat = d.length := UInt8.toNat_ofNat_of_lt' (Nat.lt_of_le_of_lt h2 (by decide))
    have hne : UInt8.ofNat d.length ≠ 0 := fun h0 => by
      rw [h0] at hlen; have : d.length = 0 := hlen.symm; omega
    simp [socksRequest, Dest.atyp, Dest.body, List.append_assoc, hlen, hne, hu, List.take_left' (rfl : d.length = _),
      List.drop_left' (rfl : d.length = _), portOf_be16_append p hp, be16_length]
    rw [if_neg (by omega), if_neg (by omega)]
    congr 1; omega

end AnyTLS
