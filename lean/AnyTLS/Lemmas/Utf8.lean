/-
UTF-8: `String.utf8EncodeChar` and the model's `validUtf8` / `decodeChars` (Model/Http.lean, Model/Dest.lean)
meet in `Utf8Seq`, the table of well-formed sequences written by payload digits: the encoder
produces such sequences, the decoder inverts them.  All division arithmetic on the scalar value
is in `Utf8Seq.of_encodeChar`; `Utf8Seq.utf8Decode_append` and `Utf8Seq.toNat_eq_of_lt` see digits only.
-/
import AnyTLS.Model.Http

namespace AnyTLS.Http

/-- The well-formed UTF-8 byte sequences (Unicode Table 3-7) by their payload digits, each with
the scalar value it carries.  The side conditions exclude overlong forms (`2 ≤ a`, `a = 0 → …`),
the surrogates (`a = 13 → b < 32`) and values above 0x10FFFF (`a < 5`, `a = 4 → b < 16`). -/
inductive Utf8Seq : Nat → Bytes → Prop
  | one (n : Nat) : n < 128 → Utf8Seq n [UInt8.ofNat n]
  | two (a x : Nat) : 2 ≤ a → a < 32 → x < 64 →
      Utf8Seq (a * 64 + x) [UInt8.ofNat (a + 192), UInt8.ofNat (x + 128)]
  | three (a b x : Nat) : a < 16 → b < 64 → x < 64 → (a = 0 → 32 ≤ b) → (a = 13 → b < 32) →
      Utf8Seq (a * 4096 + b * 64 + x) [UInt8.ofNat (a + 224), UInt8.ofNat (b + 128), UInt8.ofNat (x + 128)]
  | four (a b c x : Nat) : a < 5 → b < 64 → c < 64 → x < 64 → (a = 0 → 16 ≤ b) → (a = 4 → b < 16) →
      Utf8Seq (a * 262144 + b * 4096 + c * 64 + x)
        [UInt8.ofNat (a + 240), UInt8.ofNat (b + 128), UInt8.ofNat (c + 128), UInt8.ofNat (x + 128)]

theorem toNat_ofNat {n : Nat} (h : n < 256) : (UInt8.ofNat n).toNat = n := UInt8.toNat_ofNat_of_lt' h

/-- the next base-64 digit: `v % (k * 64)` is the digit at `k` and what is below it -/
theorem mod_mul64 (v k : Nat) : v % (k * 64) = v / k % 64 * k + v % k := by
  rw [Nat.mod_mul, Nat.mul_comm, Nat.add_comm]

theorem Utf8Seq.of_encodeChar (c : Char) : Utf8Seq c.toNat (String.utf8EncodeChar c) := by
  have hr : c.val.toNat < 0xD800 ∨ (0xDFFF < c.val.toNat ∧ c.val.toNat < 0x110000) := c.valid
  unfold String.utf8EncodeChar
  show Utf8Seq c.val.toNat _
  generalize c.val.toNat = v at hr
  dsimp only
  -- `omega` is slow on these quotients: it is left the two side conditions of each table row only, and
  -- the digits are put together again by `mod_mul64`
  have m64 (n : Nat) : n % 64 < 64 := Nat.mod_lt n (by decide)
  by_cases h1 : v ≤ 0x7f
  · rw [if_pos h1]; exact .one v (Nat.lt_succ_of_le h1)
  rw [if_neg h1]
  by_cases h2 : v ≤ 0x7ff
  · have hlt : v / 64 < 32 := Nat.div_lt_of_lt_mul (Nat.lt_succ_of_le h2)
    rw [if_pos h2, Nat.mod_eq_of_lt hlt]
    have := Utf8Seq.two (v / 64) (v % 64) ((Nat.le_div_iff_mul_le (by decide)).mpr (Nat.lt_of_not_le h1)) hlt (m64 _)
    rwa [Nat.div_add_mod' v 64] at this
  rw [if_neg h2]
  clear h1
  by_cases h3 : v ≤ 0xffff
  · have hlt : v / 4096 < 16 := Nat.div_lt_of_lt_mul (Nat.lt_succ_of_le h3)
    rw [if_pos h3, Nat.mod_eq_of_lt hlt]
    have := Utf8Seq.three (v / 4096) (v / 64 % 64) (v % 64) hlt (m64 _) (m64 _) (by omega) (by omega)
    rwa [Nat.add_assoc, ← mod_mul64 v 64, Nat.div_add_mod' v 4096] at this
  · rw [if_neg h3]
    have hv : v < 0x110000 := by omega
    clear hr h2
    have hlt : v / 262144 < 5 := Nat.div_lt_of_lt_mul (Nat.lt_trans hv (by decide))
    rw [Nat.mod_eq_of_lt (Nat.lt_trans hlt (by decide))]
    have := Utf8Seq.four (v / 262144) (v / 4096 % 64) (v / 64 % 64) (v % 64) hlt (m64 _) (m64 _) (m64 _)
      (by omega) (by omega)
    rwa [Nat.add_assoc, ← mod_mul64 v 64, Nat.add_assoc, ← mod_mul64 v 4096, Nat.div_add_mod' v 262144] at this

/-- the payload digit of a lead or continuation byte -/
theorem payload_mod (k : Nat) {d m : Nat} (hd : d < m) (hk : k % m = 0) : (d + k) % m = d := by
  rw [Nat.add_mod, hk, Nat.add_zero, Nat.mod_mod, Nat.mod_eq_of_lt hd]

/-- a lead byte `a + k` (`k` = 192, 224, 240 carries `m` = 32, 16, 8 payload values) -/
theorem leadByte_spec (k : Nat) {a m : Nat} (ha : a < m) (hk : k % m = 0) (h : k + m ≤ 256) :
    (UInt8.ofNat (a + k)).toNat = a + k ∧ (a + k) % m = a :=
  ⟨toNat_ofNat (by omega), payload_mod k ha hk⟩

theorem contByte_spec {x : Nat} (hx : x < 64) :
    (UInt8.ofNat (x + 128)).toNat = x + 128 ∧ (128 ≤ x + 128 ∧ x + 128 ≤ 191) ∧ (x + 128) % 64 = x :=
  ⟨toNat_ofNat (by omega), by omega, payload_mod 128 hx rfl⟩

theorem Utf8Seq.utf8Decode_append {n : Nat} {s : Bytes} (h : Utf8Seq n s) (rest : Bytes) :
    utf8Decode (s ++ rest) = (utf8Decode rest).map (Char.ofNat n :: ·) := by
  unfold utf8Decode
  generalize hvr : validUtf8 rest = vr
  generalize hdr : decodeChars rest = dr
  -- what is set up for each row of the table is what `validUtf8` and `decodeChars` test on that row's bytes, read
  -- as numbers: the branch the lead byte takes, the range of each continuation byte (the second one's depends
  -- on the lead), the payload digits `% 32 / 16 / 8` and `% 64`; the closing `simp only` walks both along them
  cases h
  case' one hn => have := toNat_ofNat (Nat.lt_trans hn (by decide : 128 < 256))
  case' two a x _ ha hx =>
    have : ¬ a + 192 < 128 ∧ (194 ≤ a + 192 ∧ a + 192 ≤ 223) ∧ a + 192 < 224 := by omega
    have := leadByte_spec 192 ha rfl (by decide)
    have := contByte_spec hx
  case' three a b x ha hb hx _ _ =>
    have : ¬ a + 224 < 128 ∧ ¬ (194 ≤ a + 224 ∧ a + 224 ≤ 223) ∧ (224 ≤ a + 224 ∧ a + 224 ≤ 239) ∧
        ¬ a + 224 < 224 ∧ a + 224 < 240 := by omega
    have : (if a + 224 = 224 then 160 else 128) ≤ b + 128 ∧ b + 128 ≤ (if a + 224 = 237 then 159 else 191) := by
      constructor <;> split <;> omega
    have := leadByte_spec 224 ha rfl (by decide)
    have := contByte_spec hb
    have := contByte_spec hx
  case' four a b d x ha hb hd hx _ _ =>
    have : ¬ a + 240 < 128 ∧ ¬ (194 ≤ a + 240 ∧ a + 240 ≤ 223) ∧ ¬ (224 ≤ a + 240 ∧ a + 240 ≤ 239) ∧
        (240 ≤ a + 240 ∧ a + 240 ≤ 244) ∧ ¬ a + 240 < 224 ∧ ¬ a + 240 < 240 := by omega
    have : (if a + 240 = 240 then 144 else 128) ≤ b + 128 ∧ b + 128 ≤ (if a + 240 = 244 then 143 else 191) := by
      constructor <;> split <;> omega
    have := leadByte_spec 240 (Nat.lt_trans ha (by decide : 5 < 8)) rfl (by decide)
    have := contByte_spec hb
    have := contByte_spec hd
    have := contByte_spec hx
  all_goals
    unfold validUtf8 decodeChars
    simp only [List.cons_append, List.nil_append, UInt8.lt_iff_toNat_lt, UInt8.le_iff_toNat_le, beq_iff_eq,
      ← UInt8.toNat_inj, apply_ite UInt8.toNat, UInt8.reduceToNat, Bool.and_eq_true, decide_eq_true_eq,
      if_true, if_false, and_self, *]
    cases vr <;> rfl

theorem utf8Decode_encode_append : ∀ (s : Str) (rest : Bytes),
    utf8Decode (utf8Encode s ++ rest) = (utf8Decode rest).map (s ++ ·)
  | [], rest => by cases h : utf8Decode rest <;> simp [utf8Encode, h]
  | c :: t, rest => by
    rw [show utf8Encode (c :: t) = String.utf8EncodeChar c ++ utf8Encode t from rfl, List.append_assoc,
      (Utf8Seq.of_encodeChar c).utf8Decode_append, Char.ofNat_toNat, utf8Decode_encode_append t rest, Option.map_map]
    rfl

theorem utf8_roundtrip : ∀ (s : Str), utf8Decode (utf8Encode s) = some s := by
  intro s
  have := utf8Decode_encode_append s []
  rwa [List.append_nil, show utf8Decode [] = some [] from rfl, Option.map_some, List.append_nil] at this

/-- a byte below 128 occurs in the one-byte sequence only, where it is the scalar value (so no line without `\r` encodes to
a byte 13: `utf8Encode_no_cr`) -/
theorem Utf8Seq.toNat_eq_of_lt {n : Nat} {s : Bytes} (h : Utf8Seq n s) {b : UInt8} (hb : b ∈ s) (hlt : b.toNat < 128) : b.toNat = n := by
  have hi {d k : Nat} (e : b = UInt8.ofNat (d + k)) (hk : 128 ≤ k) (hd : d + k < 256) : False := by
    rw [e, toNat_ofNat hd] at hlt
    omega
  cases h with
  | one n hn => rw [List.mem_singleton.mp hb, toNat_ofNat (by omega)]
  | two a x _ _ _ =>
    simp only [List.mem_cons, List.not_mem_nil, or_false] at hb
    rcases hb with e | e <;> exact (hi e (by decide) (by omega)).elim
  | three a b x _ _ _ _ _ =>
    simp only [List.mem_cons, List.not_mem_nil, or_false] at hb
    rcases hb with e | e | e <;> exact (hi e (by decide) (by omega)).elim
  | four a b c x _ _ _ _ _ _ =>
    simp only [List.mem_cons, List.not_mem_nil, or_false] at hb
    rcases hb with e | e | e | e <;> exact (hi e (by decide) (by omega)).elim

theorem utf8Encode_append (a b : Str) : utf8Encode (a ++ b) = utf8Encode a ++ utf8Encode b := by
  unfold utf8Encode; rw [List.flatMap_append]

theorem utf8Encode_ne_nil : ∀ (l : Str), l ≠ [] → utf8Encode l ≠ []
  | [], h => absurd rfl h
  | _ :: _, _ => fun e => String.utf8EncodeChar_ne_nil (List.append_eq_nil_iff.mp e).1

end AnyTLS.Http
